import LivesimVerif.Model.Myers
/-!
# Soundness of the Myers model: every script `diffInternal` returns is valid

`diff_seg` is an induction over the recursion of `diffInternal`; it uses nothing of the optimality of the search.
Validity is stated for a segment (`SegValid`, from reading positions `(i, j)` to `(i₁, j₁)`) of the whole lists, of which
the lists of a recursive call are slices (`Slice`), so that the scripts of the two calls and the equal stretch between
them concatenate.  Of the search only this is needed: a hit comes from one snake loop, whose run is elementwise equal
(`snake_spec`, `search_ok`); and a hit with `D ≤ 1` and an empty snake, for which `diffInternal` takes one list to be a
prefix of the other without looking, can only come from rounds `h = 0` and `1`, which are run on arbitrary lists
(`hStep_zero`, `hStep_one`, `search_small`).
-/
namespace Myers
open Patch

/-- `es` is a valid script between the reading positions `(i, j)` and `(i₁, j₁)`: positions in order, kept stretches
equal, and after the last edit the rest up to `(i₁, j₁)` is an equal stretch. -/
def SegValid {α : Type} (xs ys : List α) : List Edit → Nat → Nat → Nat → Nat → Prop
  | [], i, j, i₁, j₁ =>
    i ≤ i₁ ∧ j₁ = j + (i₁ - i) ∧ i₁ ≤ xs.length ∧ j₁ ≤ ys.length ∧
      (xs.drop i).take (i₁ - i) = (ys.drop j).take (i₁ - i)
  | .del p :: es, i, j, i₁, j₁ =>
    i ≤ p ∧ p < xs.length ∧ (xs.drop i).take (p - i) = (ys.drop j).take (p - i) ∧
      SegValid xs ys es (p + 1) (j + (p - i)) i₁ j₁
  | .ins p q :: es, i, j, i₁, j₁ =>
    i ≤ p ∧ p ≤ xs.length ∧ q = j + (p - i) ∧ q < ys.length ∧
      (xs.drop i).take (p - i) = (ys.drop j).take (p - i) ∧ SegValid xs ys es p (q + 1) i₁ j₁

theorem stretch_concat {α : Type} (xs ys : List α) (i j i₁ p : Nat) (h1 : i ≤ i₁) (h2 : i₁ ≤ p)
    (ha : (xs.drop i).take (i₁ - i) = (ys.drop j).take (i₁ - i))
    (hb : (xs.drop i₁).take (p - i₁) = (ys.drop (j + (i₁ - i))).take (p - i₁)) :
    i ≤ p ∧ j + (i₁ - i) + (p - i₁) = j + (p - i) ∧ (xs.drop i).take (p - i) = (ys.drop j).take (p - i) := by
  have e : p - i = (i₁ - i) + (p - i₁) := by omega
  refine ⟨Nat.le_trans h1 h2, by rw [e, Nat.add_assoc], ?_⟩
  rw [e, List.take_add, List.take_add, ha, List.drop_drop, List.drop_drop, Nat.add_sub_cancel' h1, hb]

theorem seg_prepend {α : Type} {xs ys : List α} {es : List Edit} {i j i₁ j₁ i₂ j₂ : Nat}
    (h0 : SegValid xs ys [] i j i₁ j₁) (h : SegValid xs ys es i₁ j₁ i₂ j₂) : SegValid xs ys es i j i₂ j₂ := by
  obtain ⟨h1, rfl, hx, hy, hs⟩ := h0
  cases es with
  | nil =>
    obtain ⟨g1, gj, gx, gy, gs⟩ := h
    obtain ⟨k1, k2, k3⟩ := stretch_concat xs ys i j i₁ i₂ h1 g1 hs gs
    exact ⟨k1, gj.trans k2, gx, gy, k3⟩
  | cons e rest =>
    cases e with
    | del p =>
      obtain ⟨g1, gp, gs, gr⟩ := h
      obtain ⟨k1, k2, k3⟩ := stretch_concat xs ys i j i₁ p h1 g1 hs gs
      exact ⟨k1, gp, k3, k2 ▸ gr⟩
    | ins p q =>
      obtain ⟨g1, gp, gq, gql, gs, gr⟩ := h
      obtain ⟨k1, k2, k3⟩ := stretch_concat xs ys i j i₁ p h1 g1 hs gs
      exact ⟨k1, gp, gq.trans k2, gql, k3, gr⟩

/-- scripts of adjacent segments concatenate -/
theorem seg_append {α : Type} (xs ys : List α) (es₁ es₂ : List Edit) (i j i₁ j₁ i₂ j₂ : Nat)
    (h1 : SegValid xs ys es₁ i j i₁ j₁) (h2 : SegValid xs ys es₂ i₁ j₁ i₂ j₂) :
    SegValid xs ys (es₁ ++ es₂) i j i₂ j₂ := by
  fun_induction SegValid xs ys es₁ i j i₁ j₁ with
  | case1 => exact seg_prepend h1 h2
  | case2 p es i j i₁ j₁ ih =>
    obtain ⟨g1, gp, gs, gr⟩ := h1
    exact ⟨g1, gp, gs, ih gr h2⟩
  | case3 p q es i j i₁ j₁ ih =>
    obtain ⟨g1, gp, gq, gql, gs, gr⟩ := h1
    exact ⟨g1, gp, gq, gql, gs, ih gr h2⟩


theorem valid_of_seg {α : Type} (xs ys : List α) (es : List Edit) (i j : Nat)
    (h : SegValid xs ys es i j xs.length ys.length) : Valid xs ys es i j := by
  fun_induction Valid xs ys es i j with
  | case1 i j =>
    obtain ⟨h1, hj, _, _, hs⟩ := h
    have a : (xs.drop i).take (xs.length - i) = xs.drop i := List.take_of_length_le (by simp)
    have b : (ys.drop j).take (xs.length - i) = ys.drop j := List.take_of_length_le (by simp; omega)
    rwa [a, b] at hs
  | case2 p es i j ih =>
    obtain ⟨g1, gp, gs, gr⟩ := h
    exact ⟨g1, gp, gs, ih gr⟩
  | case3 p q es i j ih =>
    obtain ⟨g1, gp, gq, gql, gs, gr⟩ := h
    exact ⟨g1, gp, gq, gql, gs, ih gr⟩


theorem dels_seg {α : Type} (xs ys : List α) (n i j : Nat) (hi : i + n ≤ xs.length) (hj : j ≤ ys.length) :
    SegValid xs ys (dels i n) i j (i + n) j := by
  induction n generalizing i with
  | zero => simpa [dels, SegValid, hj] using hi
  | succ n ih =>
    refine ⟨Nat.le_refl _, by omega, by simp, ?_⟩
    have := ih (i + 1) (by omega)
    simpa [Nat.add_assoc, Nat.add_comm 1 n] using this

theorem inss_seg {α : Type} (xs ys : List α) (n i j : Nat) (hi : i ≤ xs.length) (hj : j + n ≤ ys.length) :
    SegValid xs ys (inss i j n) i j i (j + n) := by
  induction n generalizing j with
  | zero => simpa [inss, SegValid, hi] using hj
  | succ n ih =>
    refine ⟨Nat.le_refl _, hi, by simp, by omega, by simp, ?_⟩
    have := ih (j + 1) (by omega)
    simpa [Nat.add_assoc, Nat.add_comm 1 n] using this

/-! ## Slices: the two lists `diffInternal` works on, inside the whole lists -/

/-- `e` is the part of `xs` between the positions `i` and `i₁` -/
structure Slice {α : Type} (xs : List α) (i i₁ : Nat) (e : List α) : Prop where
  stop : i₁ = i + e.length
  le : i₁ ≤ xs.length
  rest : ∃ t, xs.drop i = e ++ t

theorem Slice.whole {α : Type} (xs : List α) : Slice xs 0 xs.length xs :=
  ⟨(Nat.zero_add _).symm, Nat.le_refl _, [], (List.append_nil _).symm⟩

theorem Slice.nil {α : Type} {xs : List α} {i : Nat} (h : i ≤ xs.length) : Slice xs i i [] :=
  ⟨rfl, h, _, rfl⟩

theorem Slice.take {α : Type} {xs e : List α} {i i₁ x : Nat} (h : Slice xs i i₁ e) (hx : x ≤ e.length) :
    Slice xs i (i + x) (e.take x) := by
  obtain ⟨h1, h2, t, ht⟩ := h
  exact ⟨by rw [List.length_take_of_le hx], by omega, e.drop x ++ t,
    by rw [ht, ← List.append_assoc, List.take_append_drop]⟩

theorem Slice.drop {α : Type} {xs e : List α} {i i₁ u : Nat} (h : Slice xs i i₁ e) (hu : u ≤ e.length) :
    Slice xs (i + u) i₁ (e.drop u) := by
  obtain ⟨h1, h2, t, ht⟩ := h
  exact ⟨by rw [List.length_drop]; omega, h2, t, by rw [← List.drop_drop, ht, List.drop_append_of_le_length hu]⟩

theorem Slice.mid {α : Type} {xs e : List α} {i i₁ x n : Nat} (h : Slice xs i i₁ e) (hxn : x + n ≤ e.length) :
    Slice xs (i + x) (i + (x + n)) ((e.drop x).take n) := by
  have := (h.drop (u := x) (by omega)).take (x := n) (by rw [List.length_drop]; omega)
  rwa [Nat.add_assoc] at this

theorem seg_of_slices {α : Type} {xs ys s : List α} {i i₁ j j₁ : Nat} (hx : Slice xs i i₁ s) (hy : Slice ys j j₁ s) :
    SegValid xs ys [] i j i₁ j₁ := by
  obtain ⟨rfl, h2, t, ht⟩ := hx
  obtain ⟨rfl, g2, t', ht'⟩ := hy
  refine ⟨Nat.le_add_right _ _, by rw [Nat.add_sub_cancel_left], h2, g2, ?_⟩
  rw [Nat.add_sub_cancel_left, ht, ht', List.take_left', List.take_left'] <;> rfl

/-! ## The snake loop -/

/-- `n` consecutive elements from `x` in `e` equal those from `y` in `f` (and exist) -/
def RunEq {α : Type} (e f : List α) (x y n : Nat) : Prop :=
  ∀ s, s < n → ∃ v, e[x + s]? = some v ∧ f[y + s]? = some v

theorem runEq_take {α : Type} (e f : List α) (x y n : Nat) (h : RunEq e f x y n) :
    (e.drop x).take n = (f.drop y).take n := by
  apply List.ext_getElem?
  intro s
  rw [List.getElem?_take, List.getElem?_take]
  split
  · rename_i hs
    obtain ⟨v, h1, h2⟩ := h s hs
    rw [List.getElem?_drop, List.getElem?_drop, h1, h2]
  · rfl

theorem RunEq.symm {α : Type} {e f : List α} {x y n : Nat} (h : RunEq e f x y n) : RunEq f e y x n :=
  fun s hs => let ⟨v, h1, h2⟩ := h s hs; ⟨v, h2, h1⟩

theorem RunEq.eq_take {α : Type} {e f : List α} (h : RunEq e f 0 0 e.length) : e = f.take e.length := by
  simpa using runEq_take e f 0 0 _ h

theorem elemAt_some {α : Type} (l : List α) (i : Int) (v : α) (h : elemAt l i = some v) :
    0 ≤ i ∧ l[i.toNat]? = some v := by
  unfold elemAt at h
  by_cases hi : i < 0
  · simp [hi] at h
  · simp [hi] at h; exact ⟨by omega, h⟩

theorem elemAt_nat {α : Type} (l : List α) (i : Nat) : elemAt l (i : Int) = l[i]? := by
  unfold elemAt
  rw [if_neg (by omega)]; simp

theorem elemAt_lt {α : Type} (l : List α) (i : Int) (h0 : 0 ≤ i) (h1 : i < l.length) : ∃ v, elemAt l i = some v := by
  unfold elemAt
  rw [if_neg (by omega)]
  have : i.toNat < l.length := by omega
  exact ⟨l[i.toNat], List.getElem?_eq_getElem this⟩

/-- the element index the snake loop uses -/
def idx (o m N t : Int) : Int := (1 - o) * N + m * t + (o - 1)

theorem idx_fwd (N t : Int) : idx 1 1 N t = t := by unfold idx; omega
theorem idx_rev (N t : Int) : idx 0 (-1) N t = N - t - 1 := by unfold idx; omega

theorem elemAt_idx {α : Type} (l : List α) {o m : Int} (hom : (o = 1 ∧ m = 1) ∨ (o = 0 ∧ m = -1)) (t : Int)
    (h0 : 0 ≤ t) (h1 : t < l.length) : ∃ v, elemAt l (idx o m l.length t) = some v := by
  rcases hom with ⟨rfl, rfl⟩ | ⟨rfl, rfl⟩
  · rw [idx_fwd]; exact elemAt_lt l t h0 h1
  · rw [idx_rev]; exact elemAt_lt l _ (by omega) (by omega)

/-- the snake loop, in either direction: it only moves forward; it stays on its diagonal; every pair of elements it
has passed exists and is equal; and where it stops inside both lists the next pair exists and differs -/
theorem snake_spec {α : Type} [DecidableEq α] (e f : List α) (o m : Int) (fuel : Nat) (a b a' b' : Int)
    (h : snake e f o m fuel a b = some (a', b')) :
    a ≤ a' ∧ b' - b = a' - a ∧
    (∀ t : Int, a ≤ t → t < a' → t < (e.length : Int) ∧ b + (t - a) < (f.length : Int) ∧
        ∃ v, elemAt e (idx o m e.length t) = some v ∧ elemAt f (idx o m f.length (b + (t - a))) = some v) ∧
    (a' < (e.length : Int) → b' < (f.length : Int) →
        ∃ x y, elemAt e (idx o m e.length a') = some x ∧ elemAt f (idx o m f.length b') = some y ∧ x ≠ y) := by
  fun_induction snake e f o m fuel a b with
  | case1 | case4 => cases h
  | case2 fuel a b _ _ hc y hy hx ih =>
    -- an equal pair at `(a, b)`, then the rest of the loop
    obtain ⟨i1, i2, i3, i4⟩ := ih h
    refine ⟨by omega, by omega, fun t ht1 ht2 => ?_, i4⟩
    by_cases hta : t = a
    · subst hta
      exact ⟨hc.1, by omega, y, hx, by rw [show b + (t - t) = b by omega]; exact hy⟩
    · obtain ⟨j1, j2, v, j3, j4⟩ := i3 t (by omega) ht2
      exact ⟨j1, by omega, v, j3, by rw [show b + (t - a) = b + 1 + (t - (a + 1)) by omega]; exact j4⟩
  | case3 fuel a b _ _ hc x y hy hx hxy =>
    obtain ⟨rfl, rfl⟩ := h
    exact ⟨Int.le_refl _, by omega, fun t h1 h2 => by omega, fun _ _ => ⟨x, y, hx, hy, hxy⟩⟩
  | case5 fuel a b _ _ hc =>
    obtain ⟨rfl, rfl⟩ := h
    exact ⟨Int.le_refl _, by omega, fun t h1 h2 => by omega, fun h1 h2 => absurd ⟨h1, h2⟩ hc⟩

theorem snake_fwd_run {α : Type} [DecidableEq α] (e f : List α) (fuel x y : Nat) (a' b' : Int)
    (h : snake e f 1 1 fuel x y = some (a', b')) :
    ∃ n : Nat, a' = ↑(x + n) ∧ b' = ↑(y + n) ∧ RunEq e f x y n := by
  obtain ⟨h1, h2, h3, _⟩ := snake_spec e f 1 1 fuel x y a' b' h
  obtain ⟨n, rfl⟩ : ∃ n : Nat, a' = ↑(x + n) := ⟨(a' - x).toNat, by omega⟩
  refine ⟨n, rfl, by omega, fun s hs => ?_⟩
  obtain ⟨_, _, v, hv1, hv2⟩ := h3 ↑(x + s) (by omega) (by omega)
  rw [idx_fwd, elemAt_nat] at hv1
  rw [idx_fwd, show (y : Int) + (↑(x + s) - ↑x) = ↑(y + s) by omega, elemAt_nat] at hv2
  exact ⟨v, hv1, hv2⟩

/-- reverse snake: the run of `n` equal elements, seen from the list coordinates `(x, y)` at which it ends -/
theorem snake_rev_run {α : Type} [DecidableEq α] (e f : List α) (fuel p q : Nat) (a' b' : Int)
    (h : snake e f 0 (-1) fuel p q = some (a', b')) :
    ∃ n : Nat, a' = ↑(p + n) ∧ b' = ↑(q + n) ∧ (0 < n → p + n ≤ e.length ∧ q + n ≤ f.length) ∧
      ∀ x y : Nat, x + (p + n) = e.length → y + (q + n) = f.length → RunEq e f x y n := by
  obtain ⟨h1, h2, h3, _⟩ := snake_spec e f 0 (-1) fuel p q a' b' h
  obtain ⟨n, rfl⟩ : ∃ n : Nat, a' = ↑(p + n) := ⟨(a' - p).toNat, by omega⟩
  refine ⟨n, rfl, by omega, fun hn => ?_, fun x y hx hy s hs => ?_⟩
  · have := h3 (↑(p + n) - 1) (by omega) (by omega)
    omega
  obtain ⟨_, _, v, hv1, hv2⟩ := h3 (↑(p + n) - 1 - s) (by omega) (by omega)
  rw [idx_rev, show (e.length : Int) - (↑(p + n) - 1 - ↑s) - 1 = ↑(x + s) by omega, elemAt_nat] at hv1
  rw [idx_rev, show (f.length : Int) - (↑q + (↑(p + n) - 1 - ↑s - ↑p)) - 1 = ↑(y + s) by omega, elemAt_nat] at hv2
  exact ⟨v, hv1, hv2⟩

theorem snake_fwd0 {α : Type} [DecidableEq α] (e f : List α) (fuel : Nat) (a0 b0 : Int)
    (h : snake e f 1 1 fuel 0 0 = some (a0, b0)) : ∃ a : Nat, a0 = a ∧ b0 = a ∧ RunEq e f 0 0 a := by
  simpa using snake_fwd_run e f fuel 0 0 a0 b0 h

theorem snake_rev0 {α : Type} [DecidableEq α] (e f : List α) (fuel : Nat) (r0 s0 : Int)
    (h : snake e f 0 (-1) fuel 0 0 = some (r0, s0)) :
    ∃ r x y : Nat, r0 = r ∧ s0 = r ∧ x + r = e.length ∧ y + r = f.length ∧ RunEq e f x y r := by
  obtain ⟨r, h1, h2, h3, h4⟩ := snake_rev_run e f fuel 0 0 r0 s0 h
  rw [Nat.zero_add] at h1 h2 h4
  exact ⟨r, e.length - r, f.length - r, h1, h2, by omega, by omega, h4 _ _ (by omega) (by omega)⟩

theorem snake_fwd_stop {α : Type} [DecidableEq α] (e f : List α) (fuel : Nat) (a b : Int) (a' b' : Nat)
    (h : snake e f 1 1 fuel a b = some (↑a', ↑b')) (ha : a' < e.length) (hb : b' < f.length) : e[a']? ≠ f[b']? := by
  obtain ⟨x, y, hx, hy, hxy⟩ := (snake_spec e f 1 1 fuel a b a' b' h).2.2.2 (by omega) (by omega)
  rw [idx_fwd, elemAt_nat] at hx hy
  rw [hx, hy]
  exact fun hc => hxy (Option.some.inj hc)

/-- **The snake loop cannot panic or run out of fuel from a non-negative start**, in either direction: every element
it compares exists, and it stops after at most `N − a` steps. -/
theorem snake_total {α : Type} [DecidableEq α] (e f : List α) (o m : Int)
    (hom : (o = 1 ∧ m = 1) ∨ (o = 0 ∧ m = -1)) (fuel : Nat) (a b : Int) (ha : 0 ≤ a) (hb : 0 ≤ b)
    (hfuel : (e.length : Int) - a < fuel) (hpos : 0 < fuel) : ∃ r, snake e f o m fuel a b = some r := by
  fun_induction snake e f o m fuel a b with
  | case1 => omega
  | case2 fuel a b _ _ hc _ _ _ ih => exact ih (by omega) (by omega) (by omega) (by omega)
  | case3 | case5 => exact ⟨_, rfl⟩
  | case4 fuel a b _ _ hc hno =>
    -- both elements exist
    obtain ⟨x, hx⟩ := elemAt_idx e hom a ha hc.1
    obtain ⟨y, hy⟩ := elemAt_idx f hom b hb hc.2
    exact (hno x y hx hy).elim

/-! ## The search: one step of the `k` loop, and where hits come from -/

/-- the length `Z` of the two `V` arrays -/
def vLen {α : Type} (e f : List α) : Int := 2 * min (e.length : Int) f.length + 2

theorem vLen_ge {α : Type} (e f : List α) (hN : 0 < e.length) (hM : 0 < f.length) : 4 ≤ vLen e f := by
  unfold vLen; omega

/-- the overlap test of the `k` loop on diagonal `k`, made after the end `a'` of the snake has been written to `c`: the
parity of `N + M` is that of the pass, the other pass has visited the diagonal `z = (N − M) − k`, and the furthest
points of the two passes meet -/
def Overlap {α : Type} (e f : List α) (h o : Int) (c d : List Int) (k a' : Int) : Prop :=
  pyMod ((e.length : Int) + f.length) 2 = o ∧ -(k - ((e.length : Int) - f.length)) ≥ -(h-o) ∧
    -(k - ((e.length : Int) - f.length)) ≤ h-o ∧
    getI (setI c (pyMod k (vLen e f)) a') (pyMod k (vLen e f)) +
      getI d (pyMod (-(k - ((e.length : Int) - f.length))) (vLen e f)) ≥ e.length

instance {α : Type} (e f : List α) (h o : Int) (c d : List Int) (k a' : Int) :
    Decidable (Overlap e f h o c d k a') := by
  delta Overlap; infer_instance

section
variable {α : Type} [DecidableEq α] {e f : List α} {h o m hMax : Int} {c d g p : List Int} {k kMin kMax : Int} {fuel : Nat} {r : Hit}

/-- the body of the `k` loop, with the start `a` of the snake as a variable -/
theorem kStep_eval {a : Int} (ha : startA c h k (vLen e f) = a) :
    kStep e f h o m c d k =
      match snake e f o m (e.length + 1) a (a - k) with
      | none => .panic
      | some (a', b') =>
        if Overlap e f h o c d k a' then
          if o = 1 then .hit ⟨2*h-1, a, a - k, a', b'⟩
          else .hit ⟨2*h, (e.length : Int) - a', (f.length : Int) - b', (e.length : Int) - a, (f.length : Int) - (a - k)⟩
        else .cont (setI c (pyMod k (vLen e f)) a') := by
  subst ha; rfl

theorem kStep_hit {a : Int} (hk : kStep e f h o m c d k = .hit r) (ha : startA c h k (vLen e f) = a) :
    ∃ a' b', snake e f o m (e.length + 1) a (a - k) = some (a', b') ∧
      Overlap e f h o c d k a' ∧
      r = if o = 1 then ⟨2*h-1, a, a - k, a', b'⟩
          else ⟨2*h, (e.length : Int) - a', (f.length : Int) - b', (e.length : Int) - a, (f.length : Int) - (a - k)⟩ := by
  rw [kStep_eval ha] at hk
  cases hs : snake e f o m (e.length + 1) a (a - k) with
  | none => rw [hs] at hk; cases hk
  | some ab =>
    obtain ⟨a', b'⟩ := ab
    rw [hs] at hk
    simp only at hk
    split at hk
    · rename_i hc
      rw [← apply_ite KRes.hit] at hk
      exact ⟨a', b', rfl, hc, (KRes.hit.inj hk).symm⟩
    · cases hk

theorem kStep_cont {c' : List Int} (hk : kStep e f h o m c d k = .cont c') :
    ∃ a', c' = setI c (pyMod k (vLen e f)) a' := by
  rw [kStep_eval rfl] at hk
  split at hk
  · cases hk
  · split at hk
    · split at hk <;> cases hk
    · exact ⟨_, (KRes.cont.inj hk).symm⟩

theorem kLoop_step (hk : kLoop e f h o m d kMax fuel k c = .hit r) :
    k < kMax ∧ (kStep e f h o m c d k = .hit r ∨
      ∃ c', kStep e f h o m c d k = .cont c' ∧ kLoop e f h o m d kMax (fuel - 1) (k + 2) c' = .hit r) := by
  fun_induction kLoop e f h o m d kMax fuel k c with
  | case1 | case4 => cases hk
  | case2 fuel k c hlt c' hs => exact ⟨hlt, .inr ⟨c', hs, hk⟩⟩
  | case3 fuel k c hlt => exact ⟨hlt, .inl hk⟩

theorem kLoop_hit (hk : kLoop e f h o m d kMax fuel k c = .hit r) :
    ∃ c' k', kStep e f h o m c' d k' = .hit r := by
  fun_induction kLoop e f h o m d kMax fuel k c with
  | case1 | case4 => cases hk
  | case2 _ _ _ _ _ _ ih => exact ih hk
  | case3 fuel k c => exact ⟨c, k, hk⟩

/-- round `h`, with the bounds and the fuel of its two `k` loops as variables, so that callers supply simplified ones -/
theorem hStep_eq
    (hmin : -(h - 2 * max 0 (h - (f.length : Int))) = kMin) (hmax : h - 2 * max 0 (h - (e.length : Int)) + 1 = kMax)
    (hfuel : (kMax - kMin).toNat + 1 = fuel) :
    hStep e f h g p =
      match kLoop e f h 1 1 p kMax fuel kMin g with
      | .hit r => .hit r
      | .panic => .panic
      | .cont g' =>
        match kLoop e f h 0 (-1) g' kMax fuel kMin p with
        | .hit r => .hit r
        | .panic => .panic
        | .cont p' => .cont g' p' := by
  subst hmin hmax hfuel; rfl

theorem hStep_hit_cases (hh : hStep e f h g p = .hit r)
    (hmin : -(h - 2 * max 0 (h - (f.length : Int))) = kMin) (hmax : h - 2 * max 0 (h - (e.length : Int)) + 1 = kMax)
    (hfuel : (kMax - kMin).toNat + 1 = fuel) :
    kLoop e f h 1 1 p kMax fuel kMin g = .hit r ∨ ∃ g', kLoop e f h 0 (-1) g' kMax fuel kMin p = .hit r := by
  rw [hStep_eq hmin hmax hfuel] at hh
  split at hh
  · rename_i hk
    obtain rfl := HRes.hit.inj hh
    exact Or.inl hk
  · cases hh
  · split at hh
    · rename_i hk
      obtain rfl := HRes.hit.inj hh
      exact Or.inr ⟨_, hk⟩
    · cases hh
    · cases hh

theorem hStep_hit (hh : hStep e f h g p = .hit r) :
    ∃ o m c d k, ((o = 1 ∧ m = 1) ∨ (o = 0 ∧ m = -1)) ∧ kStep e f h o m c d k = .hit r := by
  rcases hStep_hit_cases hh rfl rfl rfl with hk | ⟨g', hk⟩
  · obtain ⟨c, k, h2⟩ := kLoop_hit hk
    exact ⟨1, 1, c, p, k, Or.inl ⟨rfl, rfl⟩, h2⟩
  · obtain ⟨c, k, h2⟩ := kLoop_hit hk
    exact ⟨0, -1, c, g', k, Or.inr ⟨rfl, rfl⟩, h2⟩

theorem hLoop_step (hh : hLoop e f hMax fuel h g p = some r) :
    hStep e f h g p = .hit r ∨
      ∃ g' p', hStep e f h g p = .cont g' p' ∧ hLoop e f hMax (fuel - 1) (h + 1) g' p' = some r := by
  fun_induction hLoop e f hMax fuel h g p with
  | case1 | case3 | case5 => cases hh
  | case2 fuel h g p _ r' hs => exact .inl (Option.some.inj hh ▸ hs)
  | case4 fuel h g p _ g' p' hs => exact .inr ⟨g', p', hs, hh⟩

theorem hLoop_hit (hh : hLoop e f hMax fuel h g p = some r) : ∃ h' g' p', h ≤ h' ∧ hStep e f h' g' p' = .hit r := by
  fun_induction hLoop e f hMax fuel h g p with
  | case1 | case3 | case5 => cases hh
  | case2 fuel h g p _ r' hs => exact ⟨h, g, p, Int.le_refl h, Option.some.inj hh ▸ hs⟩
  | case4 fuel h g p _ g' p' hs ih =>
    obtain ⟨h', g'', p'', hle, h3⟩ := ih hh
    exact ⟨h', g'', p'', by omega, h3⟩

theorem kLoop_hit_D (hk : kLoop e f h o m d kMax fuel k c = .hit r) :
    r.D = if o = 1 then 2 * h - 1 else 2 * h := by
  obtain ⟨c', k', h2⟩ := kLoop_hit hk
  obtain ⟨a', b', _, _, rfl⟩ := kStep_hit h2 rfl
  split <;> rfl

theorem hStep_D (hh : hStep e f h g p = .hit r) : r.D = 2 * h - 1 ∨ r.D = 2 * h := by
  rcases hStep_hit_cases hh rfl rfl rfl with hk | ⟨g', hk⟩
  · exact Or.inl (kLoop_hit_D hk)
  · exact Or.inr (kLoop_hit_D hk)

/-- what the recursion of `diffInternal` relies on: a hit inside the bounds is, in list coordinates, a run of `n`
equal elements from `(x, y)` to `(u, v)` -/
def HitOK {α : Type} (e f : List α) (r : Hit) : Prop :=
  0 ≤ r.x → 0 ≤ r.y → r.u ≤ (e.length : Int) → r.v ≤ (f.length : Int) →
    ∃ x y n : Nat, r.x = x ∧ r.y = y ∧ r.u = ↑(x + n) ∧ r.v = ↑(y + n) ∧ RunEq e f x y n

theorem kStep_hit_ok (hom : (o = 1 ∧ m = 1) ∨ (o = 0 ∧ m = -1)) (hk : kStep e f h o m c d k = .hit r) : HitOK e f r := by
  obtain ⟨a', b', hs, _, rfl⟩ := kStep_hit hk rfl
  generalize startA c h k _ = a at hs
  rcases hom with ⟨rfl, rfl⟩ | ⟨rfl, rfl⟩
  · intro hx hy _ _
    simp only [↓reduceIte] at hx hy ⊢
    obtain ⟨x, rfl⟩ := Int.eq_ofNat_of_zero_le hx
    obtain ⟨y, hy'⟩ := Int.eq_ofNat_of_zero_le hy
    rw [hy'] at hs
    obtain ⟨n, rfl, rfl, hrun⟩ := snake_fwd_run e f _ x y a' b' hs
    exact ⟨x, y, n, rfl, hy', rfl, rfl, hrun⟩
  · intro hx hy hu hv
    simp only [show ¬ (0:Int) = 1 by decide, ↓reduceIte] at hx hy hu hv ⊢
    obtain ⟨p, rfl⟩ := Int.eq_ofNat_of_zero_le (show 0 ≤ a by omega)
    obtain ⟨q, hq⟩ := Int.eq_ofNat_of_zero_le (show 0 ≤ ↑p - k by omega)
    rw [hq] at hs ⊢
    obtain ⟨n, rfl, rfl, _, hrun⟩ := snake_rev_run e f _ p q a' b' hs
    obtain ⟨x, hx'⟩ := Int.eq_ofNat_of_zero_le hx
    obtain ⟨y, hy'⟩ := Int.eq_ofNat_of_zero_le hy
    exact ⟨x, y, n, hx', hy', by omega, by omega, hrun x y (by omega) (by omega)⟩

theorem search_ok (hs : search e f = some r) : HitOK e f r := by
  unfold search at hs
  obtain ⟨h', g', p', _, hh⟩ := hLoop_hit hs
  obtain ⟨o, m, c, d, k, hom, hk⟩ := hStep_hit hh
  exact kStep_hit_ok hom hk

end

/-! ## The `V` arrays, and the first two rounds of the search executed symbolically -/

/-- for a positive modulus `pyMod` is the floor modulus (Python's `%`, hence the name) -/
theorem pyMod_eq_emod (x y : Int) (hy : 0 < y) : pyMod x y = x % y := by
  unfold pyMod
  have h1 : -y < Int.tmod x y := by
    have := Int.tmod_lt_of_pos (-x) hy
    rw [Int.neg_tmod] at this
    omega
  rw [Int.tmod_eq_emod_of_nonneg (by omega), Int.add_emod_right, Int.tmod_def, Int.sub_mul_emod_self_left]

/-- the `V` arrays are only indexed through `pyMod _ Z`: for a positive modulus that index is in `[0, Z)`, whatever the
diagonal (also for diagonals below `-Z`, where `(x + y) % y` alone would be negative) -/
theorem pyMod_range (x y : Int) (hy : 0 < y) : 0 ≤ pyMod x y ∧ pyMod x y < y := by
  rw [pyMod_eq_emod x y hy]
  exact ⟨Int.emod_nonneg _ (by omega), Int.emod_lt_of_pos _ hy⟩

theorem pyMod_of_nonneg (x y : Int) (h0 : 0 ≤ x) (h1 : x < y) : pyMod x y = x := by
  rw [pyMod_eq_emod x y (by omega), Int.emod_eq_of_lt h0 h1]

theorem pyMod_neg_one (y : Int) (h : 2 ≤ y) : pyMod (-1) y = y - 1 := by
  rw [pyMod_eq_emod _ y (by omega), ← Int.add_emod_right, Int.emod_eq_of_lt (by omega) (by omega)]
  omega

theorem getI_zeros (n : Nat) (i : Int) : getI (List.replicate n 0) i = 0 := by
  unfold getI
  by_cases h : i.toNat < n
  · simp [List.getD, h]
  · simp [List.getD, h]

theorem getI_setI_same (l : List Int) (i v : Int) (h : i.toNat < l.length) : getI (setI l i v) i = v := by
  unfold getI setI
  simp [List.getD, h]

theorem getI_setI_ne (l : List Int) (i j v : Int) (hi : 0 ≤ i) (hj : 0 ≤ j) (h : i ≠ j) : getI (setI l i v) j = getI l j := by
  unfold getI setI
  have : i.toNat ≠ j.toNat := by omega
  simp [List.getD, List.getElem?_set_ne this]

theorem getI_setI_pyMod (l : List Int) (x v : Int) {Z : Int} (hZ : 0 < Z) (hl : l.length = Z.toNat) :
    getI (setI l (pyMod x Z) v) (pyMod x Z) = v := by
  have := pyMod_range x Z hZ
  exact getI_setI_same _ _ _ (by omega)

theorem kLoop_single {α : Type} [DecidableEq α] {e f : List α} {h o m : Int} {d : List Int} {kMax : Int}
    {n : Nat} {k : Int} {c : List Int} (h1 : k < kMax) (h2 : kMax ≤ k + 2) :
    kLoop e f h o m d kMax (n + 2) k c = kStep e f h o m c d k := by
  rw [kLoop, if_pos h1]
  cases kStep e f h o m c d k with
  | hit r => rfl
  | panic => rfl
  | cont c' =>
    simp only
    rw [kLoop, if_neg (by omega)]

/-- on the lowest diagonal of a round the snake starts from the entry above, on the highest from the one below -/
theorem startA_neg {c : List Int} {h k Z : Int} (hk : k = -h) : startA c h k Z = getI c (pyMod (k+1) Z) := by
  unfold startA; rw [if_pos (Or.inl hk)]

theorem startA_top {c : List Int} {h k Z : Int} (hk : k = h) (hn : k ≠ -h) :
    startA c h k Z = getI c (pyMod (k-1) Z) + 1 := by
  unfold startA; rw [if_neg (fun hc => hc.elim hn fun h1 => h1.1 hk)]

/-- in a pass with `h = o` (the reverse pass of round 0, the forward pass of round 1) the overlap test admits only
`z = 0`, the diagonal `k = N − M`, and there it compares the end of the snake with entry 0 of the other array -/
theorem overlap_diag {α : Type} {e f : List α} {h o : Int} {c d : List Int} {k a' : Int} (ho : h = o)
    (hc : c.length = (vLen e f).toNat) (hZ : 0 < vLen e f) :
    Overlap e f h o c d k a' ↔ pyMod ((e.length : Int) + f.length) 2 = o ∧ k = (e.length : Int) - f.length ∧
      a' + getI d (pyMod 0 (vLen e f)) ≥ e.length := by
  unfold Overlap
  rw [getI_setI_pyMod c k a' hZ hc]
  constructor
  · intro ⟨q1, q2, q3, q4⟩
    have hz : -(k - ((e.length : Int) - f.length)) = 0 := by omega
    rw [hz] at q4
    exact ⟨q1, by omega, q4⟩
  · intro ⟨q1, q2, q3⟩
    have hz : -(k - ((e.length : Int) - f.length)) = 0 := by omega
    rw [hz]
    exact ⟨q1, by omega, by omega, q3⟩

/-- round `h = 0` on the zero arrays: each pass visits diagonal 0 only, and both snakes start at `(0, 0)`.  The forward
pass cannot hit (its overlap test asks for `1 ≤ z ≤ -1`); the reverse pass hits iff `N + M` is even, `N = M` and the two
snakes together cover `e` (`r0 + a0 ≥ N`); otherwise the round leaves `g[0] = a0` and `p[0] = r0`. -/
theorem hStep_zero {α : Type} [DecidableEq α] (e f : List α) (hN : 0 < e.length) (hM : 0 < f.length)
    (Z0 : List Int) (hZ0 : Z0 = List.replicate (2 * min (e.length : Int) f.length + 2).toNat 0) :
    hStep e f 0 Z0 Z0 =
      match snake e f 1 1 (e.length + 1) 0 0 with
      | none => .panic
      | some (a0, _) =>
        match snake e f 0 (-1) (e.length + 1) 0 0 with
        | none => .panic
        | some (r0, s0) =>
          if pyMod ((e.length : Int) + f.length) 2 = 0 ∧ (e.length : Int) = f.length ∧ r0 + a0 ≥ e.length then
            .hit ⟨0, (e.length : Int) - r0, (f.length : Int) - s0, e.length, f.length⟩
          else .cont (setI Z0 0 a0) (setI Z0 0 r0) := by
  change Z0 = List.replicate (vLen e f).toNat 0 at hZ0
  have hZ := vLen_ge e f hN hM
  have hlen : Z0.length = (vLen e f).toNat := by rw [hZ0]; simp
  have p0 : pyMod 0 (vLen e f) = 0 := pyMod_of_nonneg _ _ (by omega) (by omega)
  have sa : startA Z0 0 0 (vLen e f) = 0 := by rw [startA_neg (by omega), hZ0, getI_zeros]
  have g0 (v : Int) : getI (setI Z0 0 v) 0 = v := getI_setI_same _ _ _ (by omega)
  -- the fuel `(1 - 0).toNat + 1` is written `0 + 2`, the form `kLoop_single` asks for
  rw [hStep_eq (e := e) (f := f) (h := 0) (kMin := 0) (kMax := 1) (fuel := 0 + 2) (by omega) (by omega) rfl,
    kLoop_single (o := 1) (k := 0) (kMax := 1) (by omega) (by omega), kStep_eval (o := 1) sa, Int.sub_self]
  cases snake e f 1 1 (e.length + 1) 0 0 with
  | none => rfl
  | some ab =>
    obtain ⟨a0, b0⟩ := ab
    simp only
    rw [if_neg (by intro ⟨_, q2, q3, _⟩; omega), p0]
    simp only
    rw [kLoop_single (o := 0) (k := 0) (kMax := 1) (by omega) (by omega), kStep_eval (o := 0) sa, Int.sub_self]
    cases snake e f 0 (-1) (e.length + 1) 0 0 with
    | none => rfl
    | some rs =>
      obtain ⟨r0, s0⟩ := rs
      simp only [overlap_diag rfl hlen (show 0 < vLen e f by omega), p0, g0]
      by_cases hc : pyMod ((e.length : Int) + f.length) 2 = 0 ∧ (e.length : Int) = f.length ∧ r0 + a0 ≥ e.length
      · rw [if_pos hc, if_pos ⟨hc.1, by omega, hc.2.2⟩]
        simp
      · rw [if_neg hc, if_neg fun ⟨q1, q2, q3⟩ => hc ⟨q1, by omega, q3⟩]

/-- round `h = 1` on the arrays left by round 0: the hits with `D ≤ 1` -/
theorem hStep_one {α : Type} [DecidableEq α] (e f : List α) (hN : 0 < e.length) (hM : 0 < f.length)
    (Z0 : List Int) (hZ0 : Z0 = List.replicate (2 * min (e.length : Int) f.length + 2).toNat 0)
    (a0 r0 : Int) (r : Hit) (hh : hStep e f 1 (setI Z0 0 a0) (setI Z0 0 r0) = .hit r) (hD : r.D ≤ 1) :
    (∃ a1 b1, snake e f 1 1 (e.length + 1) a0 (a0 + 1) = some (a1, b1) ∧ (f.length : Int) = e.length + 1 ∧
        a1 + r0 ≥ e.length ∧ r = ⟨1, a0, a0 + 1, a1, b1⟩) ∨
    (∃ a2 b2, snake e f 1 1 (e.length + 1) (a0 + 1) a0 = some (a2, b2) ∧ (e.length : Int) = f.length + 1 ∧
        a2 + r0 ≥ e.length ∧ r = ⟨1, a0 + 1, a0, a2, b2⟩) := by
  change Z0 = List.replicate (vLen e f).toNat 0 at hZ0
  have hZ := vLen_ge e f hN hM
  have hlen : Z0.length = (vLen e f).toNat := by rw [hZ0]; simp
  have p0 : pyMod 0 (vLen e f) = 0 := pyMod_of_nonneg _ _ (by omega) (by omega)
  have pm : pyMod (-1) (vLen e f) = vLen e f - 1 := pyMod_neg_one _ (by omega)
  have g0 (v : Int) : getI (setI Z0 0 v) 0 = v := getI_setI_same _ _ _ (by omega)
  rcases hStep_hit_cases (kMin := -1) (kMax := 2) hh (by omega) (by omega) rfl with hk | ⟨g', hk⟩
  · -- the forward pass visits the diagonals `-1` and `1`
    have sa : startA (setI Z0 0 a0) 1 (-1) (vLen e f) = a0 := by rw [startA_neg (by omega), Int.add_left_neg, p0, g0]
    obtain ⟨_, h1 | ⟨c', hc1, hk⟩⟩ := kLoop_step hk
    · obtain ⟨a1, b1, hs, hov, rfl⟩ := kStep_hit h1 sa
      obtain ⟨_, hkw, q4⟩ := (overlap_diag rfl (by simp [setI, hlen]) (by omega)).1 hov
      rw [p0, g0] at q4
      exact Or.inl ⟨a1, b1, hs, by omega, q4, rfl⟩
    obtain ⟨a1, rfl⟩ := kStep_cont hc1
    obtain ⟨_, h2 | ⟨_, _, hk⟩⟩ := kLoop_step hk
    · have sb : startA (setI (setI Z0 0 a0) (pyMod (-1) (vLen e f)) a1) 1 (-1 + 2) (vLen e f) = a0 + 1 := by
        rw [startA_top (by omega) (by omega), show (-1:Int) + 2 - 1 = 0 from rfl, p0, pm,
          getI_setI_ne _ _ _ _ (by omega) (by omega) (by omega), g0]
      obtain ⟨a2, b2, hs, hov, rfl⟩ := kStep_hit h2 sb
      obtain ⟨_, hkw, q4⟩ := (overlap_diag rfl (by simp [setI, hlen]) (by omega)).1 hov
      rw [p0, g0] at q4
      rw [show a0 + 1 - (-1 + 2) = a0 by omega] at hs
      exact Or.inr ⟨a2, b2, hs, by omega, q4, by simp⟩
    · exact absurd (kLoop_step hk).1 (by omega)
  · -- a hit of the reverse pass has `D = 2`
    have := kLoop_hit_D hk
    simp at this
    omega

/-! ## The branches for `D ≤ 1` -/

/-- what the branches for `D ≤ 1` with an empty snake assume about the two lists -/
def SmallOK {α : Type} (e f : List α) : Prop :=
  (f.length > e.length → e = f.take e.length) ∧ (f.length < e.length → f = e.take f.length) ∧
  (f.length = e.length → e = f)

/-- `f` one longer than `e`, a common prefix of `a` and a common suffix of `r` elements that together cover `e`, and the
prefix cannot be extended along diagonal −1: then the prefix is all of `e` -/
theorem one_longer {α : Type} (e f : List α) (a x r : Nat)
    (hpre : RunEq e f 0 0 a) (hsuf : RunEq e f x (x + 1) r) (hx : x + r = e.length) (hov : e.length ≤ a + r)
    (hstop : a < e.length → e[a]? ≠ f[a + 1]?) : e = f.take e.length := by
  have ha : e.length ≤ a := by
    apply Nat.le_of_not_lt
    intro hlt
    obtain ⟨v, h1, h2⟩ := hsuf (a - x) (by omega)
    rw [show x + (a - x) = a by omega] at h1
    rw [show x + 1 + (a - x) = a + 1 by omega] at h2
    exact hstop hlt (h1.trans h2.symm)
  exact RunEq.eq_take fun s hs => hpre s (by omega)

/-- hit in round 0 (`D = 0`) with an empty snake: the lists are equal -/
theorem small0 {α : Type} [DecidableEq α] (e f : List α) (a0 b0 r0 s0 : Int)
    (hf : snake e f 1 1 (e.length + 1) 0 0 = some (a0, b0))
    (hr : snake e f 0 (-1) (e.length + 1) 0 0 = some (r0, s0))
    (hNM : (e.length : Int) = f.length) (hov : r0 + a0 ≥ e.length)
    (hemp : ¬ ((e.length : Int) - r0 ≠ e.length ∧ (f.length : Int) - s0 ≠ f.length)) : SmallOK e f := by
  obtain ⟨a, rfl, rfl, hpre⟩ := snake_fwd0 e f _ a0 b0 hf
  obtain ⟨r, _, _, rfl, rfl, _⟩ := snake_rev0 e f _ r0 s0 hr
  -- the lengths are equal: the first two clauses of `SmallOK` are vacuous
  refine ⟨by omega, by omega, fun hl => ?_⟩
  have hr0 : r = 0 := by omega  -- the snake handed over, from `(N - r, M - r)` to `(N, M)`, is empty
  have hcover : e.length ≤ a := by omega  -- so the overlap test says that the common prefix covers `e`
  have := RunEq.eq_take fun s hs => hpre s (Nat.lt_of_lt_of_le hs hcover)
  rwa [← hl, List.take_length] at this

/-- hit in round 1 on diagonal −1 with an empty snake: `e` is `f` without its last element -/
theorem small1 {α : Type} [DecidableEq α] (e f : List α) (a0 b0 r0 s0 a1 b1 : Int)
    (hf : snake e f 1 1 (e.length + 1) 0 0 = some (a0, b0))
    (hr : snake e f 0 (-1) (e.length + 1) 0 0 = some (r0, s0))
    (hs : snake e f 1 1 (e.length + 1) a0 (a0 + 1) = some (a1, b1))
    (hNM : (f.length : Int) = e.length + 1) (hov : a1 + r0 ≥ e.length)
    (hemp : ¬ (a0 ≠ a1 ∧ a0 + 1 ≠ b1)) : SmallOK e f := by
  obtain ⟨a, rfl, rfl, hpre⟩ := snake_fwd0 e f _ a0 b0 hf
  obtain ⟨r, x, y, rfl, rfl, hx, hy, hsuf⟩ := snake_rev0 e f _ r0 s0 hr
  obtain ⟨_, hdiag, _⟩ := snake_spec e f 1 1 _ _ _ a1 b1 hs
  -- the snake of round 1 stays on its diagonal and is empty: it ends where it starts
  obtain ⟨rfl, rfl⟩ : a1 = a ∧ b1 = ↑(a + 1) := by omega
  obtain rfl : y = x + 1 := by omega
  have hpref : e = f.take e.length := one_longer e f a x r hpre hsuf hx (by omega) fun ha =>
    snake_fwd_stop e f _ _ _ a (a + 1) hs ha (by omega)
  -- `f` is the longer list: the other two clauses of `SmallOK` are vacuous
  exact ⟨fun _ => hpref, by omega, by omega⟩

/-- hit in round 1 on diagonal +1 with an empty snake: `f` is `e` without its last element -/
theorem small2 {α : Type} [DecidableEq α] (e f : List α) (a0 b0 r0 s0 a2 b2 : Int)
    (hf : snake e f 1 1 (e.length + 1) 0 0 = some (a0, b0))
    (hr : snake e f 0 (-1) (e.length + 1) 0 0 = some (r0, s0))
    (hs : snake e f 1 1 (e.length + 1) (a0 + 1) a0 = some (a2, b2))
    (hNM : (e.length : Int) = f.length + 1) (hov : a2 + r0 ≥ e.length)
    (hemp : ¬ (a0 + 1 ≠ a2 ∧ a0 ≠ b2)) : SmallOK e f := by
  obtain ⟨a, rfl, rfl, hpre⟩ := snake_fwd0 e f _ a0 b0 hf
  obtain ⟨r, x, y, rfl, rfl, hx, hy, hsuf⟩ := snake_rev0 e f _ r0 s0 hr
  obtain ⟨_, hdiag, _⟩ := snake_spec e f 1 1 _ _ _ a2 b2 hs
  -- as in `small1`, with the two lists exchanged
  obtain ⟨rfl, rfl⟩ : a2 = ↑(a + 1) ∧ b2 = a := by omega
  obtain rfl : x = y + 1 := by omega
  have hpref : f = e.take f.length := one_longer f e a y r hpre.symm hsuf.symm hy (by omega) fun ha =>
    (snake_fwd_stop e f _ _ _ (a + 1) a hs (by omega) ha).symm
  exact ⟨by omega, fun _ => hpref, by omega⟩

/-- **The `D ≤ 1` branches are justified**: a hit with `D ≤ 1` and an empty snake occurs only when the two lists are
equal, or one is the other without its last element. -/
theorem search_small {α : Type} [DecidableEq α] (e f : List α) (r : Hit) (h : search e f = some r)
    (hN : 0 < e.length) (hM : 0 < f.length) (hD : ¬ (r.D > 1 ∨ (r.x ≠ r.u ∧ r.y ≠ r.v))) : SmallOK e f := by
  have hD1 : r.D ≤ 1 := by omega
  have hE : ¬ (r.x ≠ r.u ∧ r.y ≠ r.v) := fun hc => hD (Or.inr hc)
  unfold search at h
  simp only at h
  generalize hZ0 : List.replicate (2 * min (e.length : Int) f.length + 2).toNat (0:Int) = Z0 at h
  -- the two snakes of round 0 return (`snake_total`): naming their results lets the matches of `hStep_zero` reduce
  obtain ⟨⟨a0, b0⟩, hf⟩ := snake_total e f 1 1 (.inl ⟨rfl, rfl⟩) (e.length + 1) 0 0 (Int.le_refl 0) (Int.le_refl 0)
    (by omega) (by omega)
  obtain ⟨⟨r0, s0⟩, hr⟩ := snake_total e f 0 (-1) (.inr ⟨rfl, rfl⟩) (e.length + 1) 0 0 (Int.le_refl 0) (Int.le_refl 0)
    (by omega) (by omega)
  have h0 := hStep_zero e f hN hM Z0 hZ0.symm
  rw [hf, hr] at h0
  simp only at h0
  rcases hLoop_step h with hh | ⟨g, p, hh, h⟩
  · rw [h0] at hh
    split at hh
    · rename_i hc
      obtain rfl := HRes.hit.inj hh
      exact small0 e f a0 b0 r0 s0 hf hr hc.2.1 hc.2.2 hE
    · cases hh
  · rw [h0] at hh
    split at hh
    · cases hh
    obtain ⟨rfl, rfl⟩ := HRes.cont.inj hh
    rcases hLoop_step h with hh | ⟨g, p, _, h⟩
    · rcases hStep_one e f hN hM Z0 hZ0.symm a0 r0 r hh hD1 with
        ⟨a1, b1, k1, k2, k3, rfl⟩ | ⟨a2, b2, k1, k2, k3, rfl⟩
      · exact small1 e f a0 b0 r0 s0 a1 b1 hf hr k1 k2 k3 hE
      · exact small2 e f a0 b0 r0 s0 a2 b2 hf hr k1 k2 k3 hE
    · -- a hit of a later round has `D ≥ 3`
      obtain ⟨h', g', p', hle, hh⟩ := hLoop_hit h
      rcases hStep_D hh with hd | hd <;> omega

/-! ## The recursion of `diffInternal` -/

/-- **Soundness of the recursion**: whatever `diffInternal` returns for the slices `e = xs[i : i₁]` and
`f = ys[j : j₁]` is a segment-valid script between `(i, j)` and `(i₁, j₁)`. -/
theorem diff_seg {α : Type} [DecidableEq α] {xs ys : List α} (fuel : Nat) {e f : List α} {i j i₁ j₁ : Nat}
    {es : List Edit} (he : Slice xs i i₁ e) (hf : Slice ys j j₁ f) (h : diff fuel e f i j = some es) :
    SegValid xs ys es i j i₁ j₁ := by
  -- one alternative per branch of `diffInternal`; `@`: Lean miscounts the names of an alternative by the `let`s `N`, `M`
  fun_induction diff fuel e f i j generalizing i₁ j₁ es with
  | case1 | case2 | case4 | case5 => cases h
  | @case3 fuel e f i j N M _ r hs _ hb s1 s2 h2 h1 ih1 ih2 =>
    -- two recursive calls around the snake, which `search_ok` gives in list coordinates
    obtain rfl := Option.some.inj h
    obtain ⟨bx, _, by', _, _, bu, _, bv⟩ := hb
    obtain ⟨x, y, n, hx, hy, hu, hv, hrun⟩ := search_ok hs bx by' bu bv
    have hxn : x + n ≤ e.length := by omega
    have hyn : y + n ≤ f.length := by omega
    rw [hx, hy, Int.toNat_natCast, Int.toNat_natCast] at h1 ih1
    rw [hu, hv, Int.toNat_natCast, Int.toNat_natCast] at h2 ih2
    have a1 := ih1 (he.take (by omega)) (hf.take (by omega)) h1
    have a2 := ih2 (he.drop hxn) (hf.drop hyn) h2
    -- the snake: the same `n` elements, in `xs` from `i + x` and in `ys` from `j + y`
    have hsnake : (e.drop x).take n = (f.drop y).take n := runEq_take e f x y n hrun
    have hfmid : Slice ys (j + y) (j + (y + n)) ((e.drop x).take n) := hsnake ▸ hf.mid hyn
    exact seg_append xs ys s1 s2 _ _ _ _ _ _ a1 (seg_prepend (seg_of_slices (he.mid hxn) hfmid) a2)
  | @case6 fuel e f i j N M hNM r hs hD hgt ih =>
    -- `D ≤ 1` with an empty snake: the shorter list is a prefix of the longer (`search_small`), the rest is one run of edits
    obtain rfl := he.stop
    have hf' := hf.take (Nat.le_of_lt hgt)
    rw [← (search_small e f r hs hNM.1 hNM.2 hD).1 hgt] at hf'
    exact seg_prepend (seg_of_slices he hf') (ih (Slice.nil he.le) (hf.drop (Nat.le_of_lt hgt)) h)
  | @case7 fuel e f i j N M hNM r hs hD _ hlt ih =>
    obtain rfl := hf.stop
    have he' := he.take (Nat.le_of_lt hlt)
    rw [← (search_small e f r hs hNM.1 hNM.2 hD).2.1 hlt] at he'
    exact seg_prepend (seg_of_slices he' hf) (ih (he.drop (Nat.le_of_lt hlt)) (Slice.nil hf.le) h)
  | case8 fuel e f i j N M hNM r hs hD =>
    obtain rfl := Option.some.inj h
    have hef : e = f := (search_small e f r hs hNM.1 hNM.2 hD).2.2 (by omega)
    exact seg_of_slices he (hef ▸ hf)
  | case9 fuel e f i j N M =>
    obtain rfl := Option.some.inj h
    obtain ⟨rfl, hi, _⟩ := he
    obtain ⟨rfl, hj, _⟩ := hf
    rw [show f.length = 0 by omega]
    exact dels_seg xs ys e.length i j hi (by omega)
  | case10 fuel e f i j N M =>
    obtain rfl := Option.some.inj h
    obtain ⟨rfl, hi, _⟩ := he
    obtain ⟨rfl, hj, _⟩ := hf
    rw [show e.length = 0 by omega]
    exact inss_seg xs ys f.length i j (by omega) hj

end Myers
