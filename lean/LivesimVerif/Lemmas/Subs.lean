import LivesimVerif.Model.Subs
/-! `specCue` by cases and what membership in `specCues` means; the wvtt sample chain over any list of cues. -/
namespace Subs

theorem specCue_eq_some {u0 uEnd cueDur s : Nat} {c : Cue} : specCue u0 uEnd cueDur s = some c ↔
    max (s * 1000) u0 < min (s * 1000 + cueDur) uEnd ∧ c = ⟨max (s * 1000) u0, min (s * 1000 + cueDur) uEnd, s⟩ :=
  Option.ite_some_none_eq_some.trans (and_congr_right' eq_comm)

theorem specCue_utcS {u0 uEnd cueDur s : Nat} {c : Cue} (h : specCue u0 uEnd cueDur s = some c) : c.utcS = s :=
  (specCue_eq_some.mp h).2 ▸ rfl

/-- The loop body is the specification's cue for every second: where the loop breaks (`cueStart = utcEnd`) the clipped
interval is empty, and the later test `en ≤ st` is the negation of the specification's. -/
theorem cueOf_eq_specCue (u0 uEnd cueDur s : Nat) : cueOf u0 uEnd cueDur s = specCue u0 uEnd cueDur s := by
  unfold specCue
  fun_cases cueOf u0 uEnd cueDur s with
  | case1 _ he => exact (if_neg (Nat.not_lt.mpr (Nat.le_trans (Nat.min_le_right ..) (he ▸ Nat.le_max_left ..)))).symm
  | case2 _ _ _ _ hc => exact (if_neg (Nat.not_lt.mpr hc)).symm
  | case3 _ _ _ _ hc => exact (if_pos (Nat.lt_of_not_le hc)).symm

theorem specCue_of_mem {u0 d cueDur : Nat} {c : Cue} (h : c ∈ specCues u0 d cueDur) :
    specCue u0 (u0 + d) cueDur c.utcS = some c := by
  obtain ⟨s, _, hc⟩ := List.mem_filterMap.mp h
  rwa [specCue_utcS hc]

/-- for cue durations up to one second, a second that has a cue is one of those the specification walks over -/
theorem mem_specCues_of {u0 d cueDur s : Nat} {c : Cue} (h1 : cueDur ≤ 1000) (h : specCue u0 (u0 + d) cueDur s = some c) :
    c ∈ specCues u0 d cueDur := by
  have hlt := (specCue_eq_some.mp h).1
  have a : u0 < s * 1000 + cueDur := Nat.lt_of_le_of_lt (Nat.le_max_right ..) (Nat.lt_of_lt_of_le hlt (Nat.min_le_left ..))
  have b : s * 1000 < u0 + d := Nat.lt_of_le_of_lt (Nat.le_max_left ..) (Nat.lt_of_lt_of_le hlt (Nat.min_le_right ..))
  have lo : u0 / 1000 ≤ s := Nat.le_of_lt_succ ((Nat.div_lt_iff_lt_mul (by decide)).mpr (by omega))
  have hi : s ≤ (u0 + d) / 1000 := (Nat.le_div_iff_mul_le (by decide)).mpr (Nat.le_of_lt b)
  exact List.mem_filterMap.mpr ⟨s, List.mem_range'_1.mpr ⟨lo, by omega⟩, h⟩

/-- … and the cue of an earlier second has ended when a later one starts -/
theorem specCue_disjoint {u0 uEnd cueDur s s' : Nat} {c c' : Cue} (h1 : cueDur ≤ 1000) (hlt : s < s')
    (h : specCue u0 uEnd cueDur s = some c) (h' : specCue u0 uEnd cueDur s' = some c') : c.stop ≤ c'.start := by
  rw [(specCue_eq_some.mp h).2, (specCue_eq_some.mp h').2]
  exact Nat.le_trans (Nat.min_le_left ..) (Nat.le_trans (by omega) (Nat.le_max_left ..))

theorem chainEnd_append (l1 l2 : List Sample) (a m : Nat) (h : chainEnd l1 a = some m) :
    chainEnd (l1 ++ l2) a = chainEnd l2 m := by
  fun_induction chainEnd l1 a with
  | case1 a => exact Option.some.inj h ▸ rfl
  | case2 s rest a hc ih =>
    rw [List.cons_append, chainEnd, if_pos hc]
    exact ih h
  | case3 => cases h

theorem wvttAux_chain (cues : List Cue) (a : Nat)
    (hs : ∀ c ∈ cues, c.start ≤ c.stop) (hfirst : ∀ c ∈ cues, a ≤ c.start)
    (hp : cues.Pairwise (fun x y => x.stop ≤ y.start)) :
    chainEnd (wvttAux cues a) a = some (lastEnd cues a) := by
  fun_induction wvttAux cues a with
  | case1 => rfl
  | case2 c rest a ih =>
    have hc := hs c (.head _)
    have ha := hfirst c (.head _)
    obtain ⟨hnext, hp'⟩ := List.pairwise_cons.mp hp
    have hrest := ih (fun x hx => hs x (.tail _ hx)) hnext hp'
    split
    · -- a filler up to the cue, then the cue
      simp only [List.cons_append, List.nil_append]
      rw [chainEnd, if_pos ⟨rfl, ha⟩, chainEnd, if_pos ⟨rfl, hc⟩]
      exact hrest
    · next hg =>
      simp only [List.nil_append, List.cons_append]
      rw [chainEnd, if_pos ⟨Nat.le_antisymm (Nat.not_lt.mp hg) ha, hc⟩]
      exact hrest

theorem lastEnd_le (cues : List Cue) (a z : Nat) (ha : a ≤ z) (h : ∀ c ∈ cues, c.stop ≤ z) : lastEnd cues a ≤ z := by
  induction cues generalizing a with
  | nil => exact ha
  | cons c rest ih => exact ih _ (h c (.head _)) (fun x hx => h x (.tail _ hx))

/-- non-empty cues inside `[a, a + d]`, in order and disjoint, give samples that tile `[a, a + d]` -/
theorem wvttSamples_tile (cues : List Cue) (a d : Nat)
    (hin : ∀ c ∈ cues, a ≤ c.start ∧ c.start ≤ c.stop ∧ c.stop ≤ a + d)
    (hp : cues.Pairwise (fun x y => x.stop ≤ y.start)) :
    chainEnd (wvttSamples cues a d) a = some (a + d) := by
  unfold wvttSamples
  rw [chainEnd_append _ _ _ _ (wvttAux_chain cues a (fun c hc => (hin c hc).2.1) (fun c hc => (hin c hc).1) hp)]
  have hle := lastEnd_le cues a (a + d) (Nat.le_add_right ..) (fun c hc => (hin c hc).2.2)
  split
  · next hl => unfold chainEnd; rw [if_pos ⟨rfl, hle⟩]; rfl
  · next hl => exact congrArg some (Nat.le_antisymm hle (Nat.not_lt.mp hl))

end Subs
