import LivesimVerif.Gen.Trans
import LivesimVerif.Model.Myers
import LivesimVerif.Model.Receiver
import LivesimVerif.Model.Mpd
/-!
# The regenerated definitions equal the hand-written model

`Gen/Trans.lean` is produced on every run from the Go source by `extract/translate.go`.  Each theorem here states that a
translated function is the model function the property theorems are about, on the domain the code calls it with.  When the
Go function changes, the regenerated definition changes and the equality has to be proved again: the check reports the
broken obligation.
-/
namespace TransTie

theorem pyMod_eq (x y : Int) : Gen.Trans.pyMod x y = Myers.pyMod x y := rfl

theorem minFromMax_eq (c : Recv.Ctrs) (mx : Nat) :
    Gen.Trans.minFromMax (c.w : Int) (mx : Int) = ((c.minFromMax mx : Nat) : Int) := by
  unfold Gen.Trans.minFromMax Recv.Ctrs.minFromMax
  simp only [Int.ofNat_lt]
  split
  · rfl
  · omega

theorem tdiv_nat (a b : Nat) : Int.tdiv (a : Int) (b : Int) = ((a / b : Nat) : Int) := (Int.ofNat_tdiv a b).symm

theorem floorDiv_eq (n d : Int) (hd : 0 < d) : Gen.Trans.floorDiv n d = n / d := by
  unfold Gen.Trans.floorDiv
  rw [Int.tdiv_eq_ediv, Int.tmod_eq_emod]
  have h1 : 0 ≤ n % d := Int.emod_nonneg _ (by omega)
  have h2 : n % d < d := Int.emod_lt_of_pos _ hd
  have hs : d.sign = 1 := Int.sign_eq_one_of_pos hd
  have hn : (d.natAbs : Int) = d := Int.natAbs_of_nonneg (by omega)
  -- core's `Int.tdiv_eq_ediv` and `Int.tmod_eq_emod` give `n / d + (if 0 ≤ n ∨ d ∣ n then 0 else d.sign)` and
  -- `n % d - (if 0 ≤ n ∨ d ∣ n then 0 else d.natAbs)`: the two cases are those of that `if`
  by_cases hc : 0 ≤ n ∨ d ∣ n
  · simp only [hc, ↓reduceIte]; split <;> omega
  · simp only [hc, ↓reduceIte, hs, hn]; split <;> omega

theorem tmod_nat (a b : Nat) : Int.tmod (a : Int) (b : Int) = ((a % b : Nat) : Int) := (Int.ofNat_tmod a b).symm

/-- `splitLoops` on the domain `generateTimelineEntries` uses it in (a time that is not negative): whole loops and rest
are `/` and `%` of natural numbers, and a loop of duration 0 leaves everything in the rest -/
theorem splitLoops_eq (rel L : Nat) :
    Gen.Trans.splitLoops (rel : Int) (L : Int) = if L = 0 then ((0 : Int), (rel : Int)) else (((rel / L : Nat) : Int), ((rel % L : Nat) : Int)) := by
  unfold Gen.Trans.splitLoops
  by_cases hL : L = 0
  · subst hL; simp
  · rw [if_neg (by omega : ¬ ((L : Int) ≤ 0)), if_neg hL, floorDiv_eq _ _ (by omega), Int.natCast_ediv, Int.natCast_emod,
      Int.emod_def, Int.mul_comm]

/-- `calcAudioTimeFromRef` equals the model's `audioTimeFromRef` on natural numbers -/
theorem audioTimeFromRef_eq (refTime refT frameDur audT : Nat) :
    Gen.Trans.calcAudioTimeFromRef refTime refT frameDur audT = ((Core.audioTimeFromRef refTime refT frameDur audT : Nat) : Int) := by
  unfold Gen.Trans.calcAudioTimeFromRef Core.audioTimeFromRef
  simp only [← Int.natCast_mul, tdiv_nat, ← Int.natCast_add, Int.ofNat_lt]
  split <;> rfl

end TransTie
