import LivesimVerif.Model.Receiver
/-! The S list of the receiver's timeline MPD (C17): construction (`buildS`) against expansion (`expandS`). -/
namespace Recv

/-- `buildSAux` never looks at the elements it has finished: they stay in front -/
theorem buildSAux_acc (rest : List Item) (acc : List SElem) (cur : SElem) (nextT : Nat) :
    buildSAux rest acc cur nextT = acc ++ buildSAux rest [] cur nextT := by
  induction rest generalizing acc cur nextT with
  | nil => rfl
  | cons it rest ih =>
    unfold buildSAux
    split
    · rw [ih, ih ([] ++ [cur]), List.nil_append, List.append_assoc]
    · split
      · exact ih ..
      · rw [ih, ih ([] ++ [cur]), List.nil_append, List.append_assoc]

theorem expandOne_snoc (t d k : Nat) : expandOne t d (k+1) = expandOne t d k ++ [(t + (k+1) * d, d)] := by
  fun_induction expandOne t d k with
  | case1 t => simp [expandOne]
  | case2 t k ih =>
    have : t + d + (k + 1) * d = t + (k + 1 + 1) * d := by rw [Nat.add_mul (k + 1) 1 d]; omega
    rw [expandOne, ih, this]; rfl

/-- with the open element `cur` read from time `t` and ending at `nextT`: the open element, then one pair per item -/
theorem buildSAux_spec (rest : List Item) (cur : SElem) (nextT t : Nat)
    (h : cur.t.getD t + (cur.r + 1) * cur.d = nextT) :
    expandS (buildSAux rest [] cur nextT) t = expandOne (cur.t.getD t) cur.d cur.r ++ rest.map (fun it => (it.dts, it.dur)) := by
  induction rest generalizing cur nextT t with
  | nil => simp [buildSAux, expandS]
  | cons it rest ih =>
    unfold buildSAux
    split
    · -- a gap: `cur` is closed, a new element with explicit `@t`
      rw [buildSAux_acc, List.nil_append, List.singleton_append, expandS, h, ih _ _ _ (by simp)]
      simp [expandOne]
    · next h1 =>
      have h1 : it.dts = nextT := Decidable.not_not.mp h1
      split
      · next h2 =>   -- same duration: one more repeat
        rw [ih { cur with r := cur.r + 1 } _ t (by rw [← h, h2, Nat.add_mul (cur.r + 1) 1, Nat.one_mul, Nat.add_assoc]),
          expandOne_snoc, h]
        simp [h1, h2]
      · -- another duration: `cur` is closed, a new element that continues
        rw [buildSAux_acc, List.nil_append, List.singleton_append, expandS, h, ih _ _ _ (by simp)]
        simp [expandOne, h1]

theorem buildS_spec (l : List Item) (t0 : Nat) : expandS (buildS l) t0 = l.map (fun it => (it.dts, it.dur)) := by
  cases l with
  | nil => rfl
  | cons it rest => exact (buildSAux_spec rest _ _ t0 (by simp)).trans (by simp [expandOne])

end Recv
