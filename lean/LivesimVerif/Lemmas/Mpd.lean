import LivesimVerif.Model.Mpd
import LivesimVerif.Lemmas.Core
/-! What `generateTimelineEntries` lists (for C02, C03, C14): the output segments from the newest one ended at the start of
the time-shift window to the newest one ended now. -/
namespace Core

theorem listFrom_length (r : Rep) (first count t : Nat) : (listFrom r first count t).length = count := by
  fun_induction listFrom r first count t with
  | case1 => rfl
  | case2 _ _ _ _ ih => exact congrArg Nat.succ ih

/-- the listed entries are exactly the output segments `first, first+1, …`: start `S`, duration of the source -/
theorem listFrom_spec (a : Asset) (r : Rep) (h : Contig r) (hc : Closes a r) (first count : Nat) :
    listFrom r first count (S a r first) = (List.range' first count).map (fun k => (S a r k, segDur r k)) := by
  induction count generalizing first with
  | zero => rfl
  | succ c ih =>
    have hstep : S a r first + segDur r first = S a r (first + 1) := by rw [S_succ a r h hc, E_eq_S_add a r h]
    rw [listFrom, List.range'_succ, List.map_cons, ← ih (first + 1), ← hstep]
    rfl

/-- a `(t, d)` list in which every entry starts where the previous one ended, the first one at `t` -/
def ContigFrom : Nat → List (Nat × Nat) → Prop
  | _, [] => True
  | t, e :: rest => e.1 = t ∧ ContigFrom (e.1 + e.2) rest

theorem listFrom_contigFrom (r : Rep) (first count t : Nat) : ContigFrom t (listFrom r first count t) := by
  fun_induction listFrom r first count t with
  | case1 => trivial
  | case2 _ _ _ _ ih => exact ⟨rfl, ih⟩

theorem ContigFrom.getD_succ {t : Nat} {l : List (Nat × Nat)} (hl : ContigFrom t l) (i : Nat) (hi : i + 1 < l.length) :
    (l.getD (i+1) (0,0)).1 = (l.getD i (0,0)).1 + (l.getD i (0,0)).2 := by
  fun_induction ContigFrom t l generalizing i with
  | case1 => cases hi
  | case2 t e rest ih =>
    cases i with
    | zero =>
      cases rest with
      | nil => exact absurd hi (Nat.lt_irrefl 1)
      | cons e' _ => exact hl.2.1
    | succ j => exact ih hl.2 j (Nat.lt_of_succ_lt_succ hi)

/-! ## the live edge: "newest segment that has ended" -/

theorem finishedCount_spec (l : List Seg) (t : Nat) :
    finishedCount l t ≤ l.length ∧ (∀ i, i < finishedCount l t → (l.getD i default).stop ≤ t) ∧
    (finishedCount l t < l.length → t < (l.getD (finishedCount l t) default).stop) := by
  fun_induction finishedCount l t with
  | case1 => exact ⟨Nat.le_refl _, nofun, nofun⟩
  | case2 s rest t hs ih =>
    refine ⟨Nat.succ_le_succ ih.1, fun i hi => ?_, fun hlt => ih.2.2 (Nat.lt_of_succ_lt_succ hlt)⟩
    cases i with
    | zero => exact hs
    | succ j => exact ih.2.1 j (Nat.lt_of_succ_lt_succ hi)
  | case3 s rest t hs => exact ⟨Nat.zero_le _, nofun, fun _ => Nat.not_le.mp hs⟩

/-- inside the loop, `finishedCount` is the index of the table segment in progress -/
theorem finishedCount_within (a : Asset) (r : Rep) (h : Contig r) (hc : Closes a r) (rel : Nat)
    (hrel : rel < wrapDur a r) :
    finishedCount r.segs rel < r.N ∧ (r.seg (finishedCount r.segs rel)).start ≤ rel ∧
      rel < (r.seg (finishedCount r.segs rel)).stop := by
  obtain ⟨hle, hended, hnext⟩ := finishedCount_spec r.segs rel
  -- not all segments have ended, since the last one ends at D
  have hlt : finishedCount r.segs rel < r.N := by
    refine Nat.lt_of_le_of_ne hle fun hfull => ?_
    have := hended (r.N - 1) (by rw [hfull]; exact Nat.sub_lt h.1 Nat.one_pos)
    rw [← h.last_stop hc] at hrel
    exact Nat.not_le.mpr hrel this
  refine ⟨hlt, ?_, hnext hlt⟩
  cases hc0 : finishedCount r.segs rel with
  | zero => rw [hc.2]; exact Nat.zero_le _
  | succ c => rw [← h.2.2 c (hc0 ▸ hlt)]; exact hended c (hc0 ▸ Nat.lt_succ_self c)

/-- `edgeIdx` steps one segment back from output segment `N·w + finishedCount`, as `(loop, index in the table)` -/
theorem edgeIdx_succ (r : Rep) (hN : 0 < r.N) (w rel : Nat) :
    match edgeIdx r w rel with
    | none => w = 0 ∧ finishedCount r.segs rel = 0
    | some p => p.2 < r.N ∧ r.N * p.1 + p.2 + 1 = r.N * w + finishedCount r.segs rel := by
  fun_cases edgeIdx r w rel with
  | case1 h0 hw => exact ⟨hw, h0⟩
  | case2 h0 hw =>
    obtain ⟨v, rfl⟩ := Nat.exists_eq_succ_of_ne_zero hw
    refine ⟨Nat.sub_lt hN Nat.one_pos, ?_⟩
    show r.N * v + (r.N - 1) + 1 = _
    rw [h0, Nat.add_assoc, Nat.sub_add_cancel hN]
    rfl
  | case3 h0 =>
    have hpos := Nat.pos_of_ne_zero h0
    refine ⟨Nat.lt_of_lt_of_le (Nat.sub_lt hpos Nat.one_pos) (finishedCount_spec r.segs rel).1, ?_⟩
    show r.N * w + (finishedCount r.segs rel - 1) + 1 = _
    rw [Nat.add_assoc, Nat.sub_add_cancel hpos]

/-- `o` is the newest output segment that has ended at tick `τ`; `none`: not even segment 0 has -/
def NewestEnded (a : Asset) (r : Rep) (τ : Nat) : Option Nat → Prop
  | none => τ < E a r 0
  | some k => E a r k ≤ τ ∧ τ < E a r (k + 1)

/-- the edge does not move back; "no edge" counts as segment 0, as `generateTimelineEntries` does at the window start -/
theorem NewestEnded.mono {a : Asset} {r : Rep} (h : Contig r) (hc : Closes a r) {τ₁ τ₂ : Nat} {o₁ o₂ : Option Nat}
    (h1 : NewestEnded a r τ₁ o₁) (h2 : NewestEnded a r τ₂ o₂) (hτ : τ₁ ≤ τ₂) : o₁.getD 0 ≤ o₂.getD 0 := by
  cases o₁ with
  | none => exact Nat.zero_le _
  | some k₁ =>
    cases o₂ with
    | some k₂ => exact edge_mono a r h hc hτ h1.1 h2.2
    | none =>
      have : E a r k₁ < E a r 0 := Nat.lt_of_le_of_lt h1.1 (Nat.lt_of_le_of_lt hτ h2)
      exact absurd ((lt_iff_of_strictMono (E_strictMono a r h hc)).mp this) (Nat.not_lt_zero _)

/-- **The edge search** (the `relIdx` / `wraps--` logic of `generateTimelineEntries`) for an instant `rel` inside loop
`w` returns the newest output segment that has ended at `w·D + rel`, as `(loop, index in the table)`. -/
theorem edgeIdx_spec (a : Asset) (r : Rep) (h : Contig r) (hc : Closes a r) (w rel : Nat) (hrel : rel < wrapDur a r) :
    NewestEnded a r (w * wrapDur a r + rel) ((edgeIdx r w rel).map fun p => r.N * p.1 + p.2) ∧
    ∀ p, edgeIdx r w rel = some p → p.2 < r.N := by
  -- the instant lies in output segment `N·w + finishedCount`
  obtain ⟨hlt, hlo, hhi⟩ := finishedCount_within a r h hc rel hrel
  have hS : S a r (r.N * w + finishedCount r.segs rel) ≤ w * wrapDur a r + rel := by
    rw [S_decomp a r w _ hlt]; exact Nat.add_le_add_left hlo _
  have hE : w * wrapDur a r + rel < E a r (r.N * w + finishedCount r.segs rel) := by
    rw [E_decomp a r w _ hlt]; exact Nat.add_lt_add_left hhi _
  have hp := edgeIdx_succ r h.1 w rel
  cases he : edgeIdx r w rel with
  | none =>
    rw [he] at hp
    obtain ⟨rfl, h0⟩ := hp
    rw [h0] at hE
    exact ⟨hE, nofun⟩
  | some p =>
    rw [he] at hp
    rw [← hp.2, S_succ a r h hc] at hS
    rw [← hp.2] at hE
    exact ⟨⟨hS, hE⟩, fun q hq => by cases hq; exact hp.1⟩

/-! ## the instants `generateTimelineEntries` searches at -/

/-- The pair (loops plus carry, rest) that `generateTimelineEntries` hands to the edge search for the instant `x` ms after
stream start denotes the tick `τ(x) = ⌊(x + ato)·T/1000⌋`.  This is where `hadm`, the admission test of
`consolidateAsset`, does its work: a loop is a whole number `1000·dur = loopMS·T` of scaled ticks, so the whole loops of
`x` come out of the floor. -/
theorem edge_instant (a : Asset) (r : Rep) (hadm : a.loopMS * r.T = 1000 * r.dur) (hc : Closes a r)
    (x atoMS : Nat) :
    (x / a.loopMS + (x % a.loopMS + atoMS) * r.T / 1000 / r.dur) * wrapDur a r + (x % a.loopMS + atoMS) * r.T / 1000 % r.dur
      = (x + atoMS) * r.T / 1000 := by
  rw [hc.1, Nat.add_mul, Nat.add_assoc, Nat.div_add_mod']
  have e2 : (x + atoMS) * r.T = 1000 * (x / a.loopMS * r.dur) + (x % a.loopMS + atoMS) * r.T := by
    have : 1000 * (x / a.loopMS * r.dur) = x / a.loopMS * (a.loopMS * r.T) := by
      rw [hadm, Nat.mul_left_comm]
    rw [this, ← Nat.mul_assoc, ← Nat.add_mul, ← Nat.add_assoc, Nat.div_add_mod']
  rw [e2, Nat.mul_add_div (by decide : 0 < 1000)]

theorem edgeIdx_at (a : Asset) (r : Rep) (h : Contig r) (hc : Closes a r) (hadm : a.loopMS * r.T = 1000 * r.dur)
    (x atoMS : Nat) :
    NewestEnded a r ((x + atoMS) * r.T / 1000)
      ((edgeIdx r (x / a.loopMS + (x % a.loopMS + atoMS) * r.T / 1000 / r.dur)
        ((x % a.loopMS + atoMS) * r.T / 1000 % r.dur)).map fun p => r.N * p.1 + p.2) ∧
    ∀ p, edgeIdx r (x / a.loopMS + (x % a.loopMS + atoMS) * r.T / 1000 / r.dur)
        ((x % a.loopMS + atoMS) * r.T / 1000 % r.dur) = some p → p.2 < r.N := by
  have hD := wrapDur_pos a r h hc
  have := edgeIdx_spec a r h hc (x / a.loopMS + (x % a.loopMS + atoMS) * r.T / 1000 / r.dur)
    ((x % a.loopMS + atoMS) * r.T / 1000 % r.dur) (by rw [hc.1] at hD ⊢; exact Nat.mod_lt _ hD)
  rwa [edge_instant a r hadm hc] at this

theorem sub_div_mul_add (l s n : Nat) : n - ((n - s) / l * l + s) = (n - s) % l := by
  rw [Nat.mod_eq_sub_div_mul, Nat.add_comm, Nat.sub_add_eq]

/-- now and the start of the time-shift window (`xs` ms after stream start), as `calcWrapTimes` splits them into loops
and a rest -/
theorem calcWrapTimes_spec (a : Asset) (startS nowMS tsbdS : Nat) :
    ∃ xs, xs + startS * 1000 = max (nowMS - tsbdS * 1000) (startS * 1000) ∧
    (calcWrapTimes a startS nowMS tsbdS).startWraps = xs / a.loopMS ∧
    (calcWrapTimes a startS nowMS tsbdS).startRelMS = xs % a.loopMS ∧
    (calcWrapTimes a startS nowMS tsbdS).nowWraps = (nowMS - startS * 1000) / a.loopMS ∧
    (calcWrapTimes a startS nowMS tsbdS).nowRelMS = (nowMS - startS * 1000) % a.loopMS :=
  ⟨max (nowMS - tsbdS * 1000) (startS * 1000) - startS * 1000, Nat.sub_add_cancel (Nat.le_max_right _ _),
    rfl, sub_div_mul_add _ _ _, rfl, sub_div_mul_add _ _ _⟩

/-- **What `generateTimelineEntries` lists.**  Write `τ(x) = ⌊(x + ato)·T/1000⌋` for the instant `x` ms after the stream
start in ticks, advanced by the availability time offset, and let `xs` be the start of the time-shift window, `start + xs = max (now − tsbd) start`.
With `on` the newest segment ended at `τ(now − start)` and `os` the newest one ended at `τ(xs)`: nothing is listed when
`on = none`; otherwise exactly the output segments `s … k` are, each with its start `S` and its duration, where
`on = some k` and `s` is `os`, or 0 for `os = none`. -/
theorem genTimeline_spec (a : Asset) (r : Rep) (h : Contig r) (hc : Closes a r)
    (hadm : a.loopMS * r.T = 1000 * r.dur) (startS nowMS tsbdS atoMS : Nat) (hnow : startS * 1000 ≤ nowMS) :
    ∃ (xs : Nat) (os on : Option Nat), xs + startS * 1000 = max (nowMS - tsbdS * 1000) (startS * 1000) ∧
      NewestEnded a r ((xs + atoMS) * r.T / 1000) os ∧
      NewestEnded a r ((nowMS - startS * 1000 + atoMS) * r.T / 1000) on ∧
      match on with
      | none => (genTimeline r (calcWrapTimes a startS nowMS tsbdS) atoMS).startNr = -1 ∧
          (genTimeline r (calcWrapTimes a startS nowMS tsbdS) atoMS).entries = []
      | some k => os.getD 0 ≤ k ∧
          (genTimeline r (calcWrapTimes a startS nowMS tsbdS) atoMS).startNr = (os.getD 0 : Nat) ∧
          (genTimeline r (calcWrapTimes a startS nowMS tsbdS) atoMS).entries =
            (List.range' (os.getD 0) (k + 1 - os.getD 0)).map (fun j => (S a r j, segDur r j)) := by
  have hD : 0 < r.dur := hc.1 ▸ wrapDur_pos a r h hc
  obtain ⟨xs, hxs, hsw, hsr, hnw, hnr⟩ := calcWrapTimes_spec a startS nowMS tsbdS
  obtain ⟨hs, hsi⟩ := edgeIdx_at a r h hc hadm xs atoMS
  obtain ⟨hn, _⟩ := edgeIdx_at a r h hc hadm (nowMS - startS * 1000) atoMS
  refine ⟨xs, _, _, hxs, hs, hn, ?_⟩
  -- the window starts at or before now, so its edge is not after the live edge
  have hle : xs ≤ nowMS - startS * 1000 :=
    Nat.le_sub_of_add_le (hxs ▸ Nat.max_le.mpr ⟨Nat.sub_le _ _, hnow⟩)
  have hmono := NewestEnded.mono h hc hs hn (Nat.div_le_div_right (Nat.mul_le_mul_right _ (Nat.add_le_add_right hle _)))
  unfold genTimeline
  simp only [Nat.ne_of_gt hD, ↓reduceIte, hnw, hnr, hsw, hsr]
  -- the two edge searches of `genTimeline`, at the window start and at now
  generalize edgeIdx r _ ((xs % a.loopMS + atoMS) * r.T / 1000 % r.dur) = es at hsi hmono ⊢
  generalize edgeIdx r _ (((nowMS - startS * 1000) % a.loopMS + atoMS) * r.T / 1000 % r.dur) = en at hmono ⊢
  cases en with
  | none => exact ⟨rfl, rfl⟩
  | some q =>
    obtain ⟨nw, ni⟩ := q
    -- `on = some k` with `k = N·nw + ni`
    simp only [Option.map_some, Option.getD_some] at hmono ⊢
    -- the start edge as a segment number `s`, and the first listed time as `S s`
    have hse : (es.map fun p => r.N * p.1 + p.2).getD 0 = (es.getD (0, 0)).1 * r.N + (es.getD (0, 0)).2 := by
      cases es <;> simp [Nat.mul_comm]
    have ht0 : r.dur * (es.getD (0, 0)).1 + (r.seg (es.getD (0, 0)).2).start =
        S a r ((es.getD (0, 0)).1 * r.N + (es.getD (0, 0)).2) := by
      have : (es.getD (0, 0)).2 < r.N := by
        cases es with
        | none => exact h.1
        | some p => exact hsi p rfl
      rw [Nat.mul_comm _ r.N, S_decomp a r _ _ this, hc.1, Nat.mul_comm]
    rw [hse] at hmono ⊢
    simp only [ht0, listFrom_spec a r h hc, Nat.mul_comm nw]
    generalize (es.getD (0, 0)).1 * r.N + (es.getD (0, 0)).2 = s at hmono ⊢
    refine ⟨hmono, trivial, ?_⟩
    -- `s ≤ k`: the list is not empty, so the model's single-entry fallback for `nowNr < startNr` is not taken
    rw [if_neg]
    simp only [List.isEmpty_iff, List.map_eq_nil_iff, List.range'_eq_nil_iff]
    omega

/-- **What `generateTimelineEntries` lists last**: nothing when no segment has ended at the instant (less the offset),
otherwise the list is not empty and its last number is the `k` with `E k ≤ τ < E (k+1)`, `τ` the instant in ticks. -/
theorem genTimeline_last (a : Asset) (r : Rep) (h : Contig r) (hc : Closes a r)
    (hadm : a.loopMS * r.T = 1000 * r.dur) (hl : 0 < a.loopMS)
    (startS nowMS tsbdS atoMS : Nat) (hnow : startS * 1000 ≤ nowMS) :
    ((genTimeline r (calcWrapTimes a startS nowMS tsbdS) atoMS).startNr = -1 ∧
      (genTimeline r (calcWrapTimes a startS nowMS tsbdS) atoMS).entries = [] ∧
      (nowMS - startS * 1000 + atoMS) * r.T / 1000 < E a r 0) ∨
    (∃ k : Nat, (genTimeline r (calcWrapTimes a startS nowMS tsbdS) atoMS).startNr +
        ((genTimeline r (calcWrapTimes a startS nowMS tsbdS) atoMS).entries.length : Int) - 1 = (k : Int) ∧
      0 ≤ (genTimeline r (calcWrapTimes a startS nowMS tsbdS) atoMS).startNr ∧
      (genTimeline r (calcWrapTimes a startS nowMS tsbdS) atoMS).entries ≠ [] ∧
      E a r k ≤ (nowMS - startS * 1000 + atoMS) * r.T / 1000 ∧
      (nowMS - startS * 1000 + atoMS) * r.T / 1000 < E a r (k + 1)) := by
  -- a run of `n` numbers from `s` that ends at `k ≥ s`, counted as the MPD does (`startNumber` is an `Int`)
  have run_last : ∀ {s n k : Nat}, s ≤ k → n = k + 1 - s → (s : Int) + n - 1 = k ∧ n ≠ 0 := by
    intro s n k hsk hn; omega
  obtain ⟨_, os, on, _, _, hn, hg⟩ := genTimeline_spec a r h hc hadm startS nowMS tsbdS atoMS hnow
  cases on with
  | none => exact Or.inl ⟨hg.1, hg.2, hn⟩
  | some k =>
    obtain ⟨hsk, hst, hen⟩ := hg
    have hlen := congrArg List.length hen
    rw [List.length_map, List.length_range'] at hlen
    obtain ⟨h1, h2⟩ := run_last hsk hlen
    exact Or.inr ⟨k, hst ▸ h1, hst ▸ Int.natCast_nonneg _, fun he => h2 (congrArg List.length he), hn.1, hn.2⟩

/-- **What `generateTimelineEntries` lists first**: when anything is listed, the first number `s` is either 0 with
segment 0 not yet ended at the start of the window, or the newest segment that has ended there:
`E s ≤ τs < E (s+1)`, where `τs` is the window start (less the offset) in ticks, `xs` ms after the stream start with
`now − tsbd ≤ start + xs`. -/
theorem genTimeline_first (a : Asset) (r : Rep) (h : Contig r) (hc : Closes a r)
    (hadm : a.loopMS * r.T = 1000 * r.dur) (hl : 0 < a.loopMS)
    (startS nowMS tsbdS atoMS : Nat) (hnow : startS * 1000 ≤ nowMS)
    (hne : (genTimeline r (calcWrapTimes a startS nowMS tsbdS) atoMS).entries ≠ []) :
    ∃ (s xs : Nat), (genTimeline r (calcWrapTimes a startS nowMS tsbdS) atoMS).startNr = (s : Int) ∧
      nowMS ≤ xs + tsbdS * 1000 + startS * 1000 ∧
      (((xs + atoMS) * r.T / 1000 < E a r 0 ∧ s = 0) ∨
       (E a r s ≤ (xs + atoMS) * r.T / 1000 ∧ (xs + atoMS) * r.T / 1000 < E a r (s + 1))) := by
  obtain ⟨xs, os, on, hxs, hs, _, hg⟩ := genTimeline_spec a r h hc hadm startS nowMS tsbdS atoMS hnow
  have hlo : nowMS ≤ xs + tsbdS * 1000 + startS * 1000 := by
    rw [Nat.add_right_comm, hxs]; exact Nat.sub_le_iff_le_add.mp (Nat.le_max_left _ _)
  cases on with
  | none => exact absurd hg.2 hne
  | some k =>
    refine ⟨os.getD 0, xs, hg.2.1, hlo, ?_⟩
    cases os with
    | none => exact Or.inl ⟨hs, rfl⟩
    | some s => exact Or.inr hs

end Core
