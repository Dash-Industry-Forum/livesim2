import LivesimVerif.Model.Core
import LivesimVerif.Lemmas.List
/-! The looped timeline `S`/`E` over a contiguous, closing table, and the two lookups `byNr`/`byTime` as functions of
the output segment index. -/
namespace Core

theorem Rep.dur_eq (r : Rep) (hN : 0 < r.N) : r.dur = (r.seg (r.N - 1)).stop - (r.seg 0).start := by
  rw [Rep.dur, if_neg fun he => Nat.ne_of_gt hN (List.length_eq_zero_iff.mpr (List.isEmpty_iff.mp he))]

theorem contig_start_lt (r : Rep) (h : Contig r) (i j : Nat) (hij : i < j) (hj : j < r.N) :
    (r.seg i).start < (r.seg j).start :=
  lt_of_step (f := fun i => (r.seg i).start) (fun i hi => h.2.2 i hi ▸ h.2.1 i (Nat.lt_of_succ_lt hi)) hij hj

theorem contig_stop_le (r : Rep) (h : Contig r) (i j : Nat) (hij : i ≤ j) (hj : j < r.N) :
    (r.seg i).stop ≤ (r.seg j).stop := by
  rcases Nat.eq_or_lt_of_le hij with rfl | hlt
  · exact Nat.le_refl _
  · exact Nat.le_of_lt (lt_of_step (f := fun i => (r.seg i).stop) (fun i hi => h.2.2 i hi ▸ h.2.1 (i + 1) hi) hlt hj)

theorem Contig.last_stop {a : Asset} {r : Rep} (h : Contig r) (hc : Closes a r) :
    (r.seg (r.N - 1)).stop = wrapDur a r := by
  rw [hc.1, r.dur_eq h.1, hc.2]; rfl

theorem contig_stop_le_dur (a : Asset) (r : Rep) (h : Contig r) (hc : Closes a r) (i : Nat) (hi : i < r.N) :
    (r.seg i).stop ≤ wrapDur a r ∧ (r.seg i).start < wrapDur a r := by
  have hle := contig_stop_le r h i (r.N - 1) (Nat.le_sub_one_of_lt hi) (Nat.sub_lt h.1 Nat.one_pos)
  rw [← h.last_stop hc]
  exact ⟨hle, Nat.lt_of_lt_of_le (h.2.1 i hi) hle⟩

theorem wrapDur_pos (a : Asset) (r : Rep) (h : Contig r) (hc : Closes a r) : 0 < wrapDur a r :=
  Nat.lt_of_le_of_lt (Nat.zero_le _) (contig_stop_le_dur a r h hc 0 h.1).2

/-! ## `S` and `E`: index normal form `N·w + i`, successor, monotonicity -/

theorem decomp (N k : Nat) (hN : 0 < N) : ∃ w i, i < N ∧ k = N * w + i :=
  ⟨k / N, k % N, Nat.mod_lt _ hN, (Nat.div_add_mod k N).symm⟩

theorem mul_add_div_mod {n i : Nat} (hi : i < n) (w : Nat) : (n * w + i) / n = w ∧ (n * w + i) % n = i :=
  (Nat.div_mod_unique (Nat.zero_lt_of_lt hi)).mpr ⟨Nat.add_comm _ _, hi⟩

theorem S_decomp (a : Asset) (r : Rep) (w i : Nat) (hi : i < r.N) :
    S a r (r.N * w + i) = w * wrapDur a r + (r.seg i).start := by
  rw [S, (mul_add_div_mod hi w).1, (mul_add_div_mod hi w).2]

theorem E_decomp (a : Asset) (r : Rep) (w i : Nat) (hi : i < r.N) :
    E a r (r.N * w + i) = w * wrapDur a r + (r.seg i).stop := by
  rw [E, (mul_add_div_mod hi w).1, (mul_add_div_mod hi w).2]

theorem S_zero (a : Asset) (r : Rep) (hc : Closes a r) : S a r 0 = 0 := by
  simp [S, hc.2]

theorem E_zero (a : Asset) (r : Rep) : E a r 0 = (r.seg 0).stop := by
  simp [E]

/-- duration of output segment k -/
def segDur (r : Rep) (k : Nat) : Nat := (r.seg (k % r.N)).stop - (r.seg (k % r.N)).start

theorem segDur_pos (r : Rep) (h : Contig r) (k : Nat) : 0 < segDur r k :=
  Nat.sub_pos_of_lt (h.2.1 (k % r.N) (Nat.mod_lt _ h.1))

theorem E_eq_S_add (a : Asset) (r : Rep) (h : Contig r) (k : Nat) : E a r k = S a r k + segDur r k := by
  rw [E, S, segDur, Nat.add_assoc, Nat.add_sub_cancel' (Nat.le_of_lt (h.2.1 (k % r.N) (Nat.mod_lt _ h.1)))]

/-- gap-free across every wrap -/
theorem S_succ (a : Asset) (r : Rep) (h : Contig r) (hc : Closes a r) (k : Nat) : S a r (k + 1) = E a r k := by
  obtain ⟨w, i, hi, rfl⟩ := decomp r.N k h.1
  rw [E_decomp a r w i hi]
  rcases Nat.lt_or_ge (i + 1) r.N with hl | hge
  · rw [Nat.add_assoc, S_decomp a r w (i+1) hl, h.2.2 i hl]
  · -- the last segment of a loop: on to segment 0 of the next loop
    have hi' : i = r.N - 1 := Nat.le_antisymm (Nat.le_sub_one_of_lt hi) (Nat.sub_le_of_le_add hge)
    have e : r.N * w + i + 1 = r.N * (w + 1) + 0 := by
      rw [hi', Nat.add_assoc, Nat.sub_add_cancel h.1, Nat.mul_succ]; rfl
    rw [e, S_decomp a r (w+1) 0 h.1, hc.2, hi', h.last_stop hc, Nat.add_mul, Nat.one_mul, Nat.add_zero]

theorem E_succ (a : Asset) (r : Rep) (h : Contig r) (hc : Closes a r) (k : Nat) :
    E a r (k + 1) = E a r k + segDur r (k + 1) := by
  rw [E_eq_S_add a r h (k+1), S_succ a r h hc k]

theorem E_strictMono (a : Asset) (r : Rep) (h : Contig r) (hc : Closes a r) (k k' : Nat) (hk : k < k') :
    E a r k < E a r k' :=
  lt_of_step (fun i _ => E_succ a r h hc i ▸ Nat.lt_add_of_pos_right (segDur_pos r h (i + 1))) hk (Nat.lt_succ_self k')

theorem S_strictMono (a : Asset) (r : Rep) (h : Contig r) (hc : Closes a r) (k k' : Nat) (hk : k < k') :
    S a r k < S a r k' :=
  lt_of_step (fun i _ => by
    rw [S_succ a r h hc, E_eq_S_add a r h]; exact Nat.lt_add_of_pos_right (segDur_pos r h i)) hk (Nat.lt_succ_self k')

theorem edge_mono (a : Asset) (r : Rep) (h : Contig r) (hc : Closes a r) {τ₁ τ₂ k₁ k₂ : Nat} (hτ : τ₁ ≤ τ₂)
    (h1 : E a r k₁ ≤ τ₁) (h2 : τ₂ < E a r (k₂ + 1)) : k₁ ≤ k₂ :=
  Nat.le_of_lt_succ ((lt_iff_of_strictMono (E_strictMono a r h hc)).mp (Nat.lt_of_le_of_lt h1 (Nat.lt_of_le_of_lt hτ h2)))

theorem S_div_mod (a : Asset) (r : Rep) (h : Contig r) (hc : Closes a r) (k : Nat) :
    S a r k / wrapDur a r = k / r.N ∧ S a r k % wrapDur a r = (r.seg (k % r.N)).start := by
  rw [S, Nat.mul_comm]
  exact mul_add_div_mod (contig_stop_le_dur a r h hc (k % r.N) (Nat.mod_lt _ h.1)).2 _

theorem idxFromTime_le (l : List Seg) (t : Nat) : idxFromTime l t ≤ l.length := by
  fun_induction idxFromTime l t with
  | case1 => exact Nat.le_refl _
  | case2 => exact Nat.zero_le _
  | case3 _ _ _ ih => exact Nat.succ_le_succ ih

/-- `idxFromTime` finds the segment whose start is exactly `t` in a table with increasing starts -/
theorem idxFromTime_start (l : List Seg)
    (hinc : ∀ i j, i < j → j < l.length → (l.getD i default).start < (l.getD j default).start)
    (i : Nat) (hi : i < l.length) : idxFromTime l (l.getD i default).start = i := by
  induction l generalizing i with
  | nil => simp at hi
  | cons s rest ih =>
    unfold idxFromTime
    cases i with
    | zero => simp
    | succ j =>
      have hlt : s.start < (rest.getD j default).start := hinc 0 (j+1) (Nat.succ_pos j) hi
      rw [List.getD_cons_succ, if_neg (Nat.not_le.mpr hlt), ih (fun a b hab hb => hinc (a+1) (b+1) (Nat.succ_lt_succ hab) (Nat.succ_lt_succ hb))
        j (Nat.lt_of_succ_lt_succ hi)]

/-- what a lookup of output segment `k` returns when the segment is available -/
def segMeta (a : Asset) (r : Rep) (cfg : Cfg) (k : Nat) : Meta :=
  { origIdx := k % r.N, origNr := (r.seg (k % r.N)).nr, origTime := (r.seg (k % r.N)).start,
    newNr := (cfg.startNr + k) % 4294967296, newTime := S a r k,
    newDur := ((r.seg (k % r.N)).stop - (r.seg (k % r.N)).start) % 4294967296, T := r.T }

/-- the last step of both lookups: the segment if the time check passes, else the check's status -/
def answer (st : Status) (m : Meta) : Lookup :=
  match st with
  | .ok => .found m
  | st => .status st

theorem answer_eq_found {st : Status} {m m' : Meta} : answer st m = .found m' ↔ st = .ok ∧ m = m' := by
  cases st <;> simp [answer]

/-- `$Number$` lookup of output segment `k`: the time check on its end `E k`, then `segMeta k` -/
theorem byNr_eq (a : Asset) (r : Rep) (cfg : Cfg) (k nowMS : Nat) (hN : 0 < r.N) :
    byNr a r cfg (cfg.startNr + k) nowMS =
      answer (checkTime (E a r k + cfg.startS * r.T) r.T nowMS cfg.tsbdS cfg.ato) (segMeta a r cfg k) := by
  unfold byNr
  rw [if_neg (Nat.ne_of_gt hN), if_neg (Nat.not_lt.mpr (Nat.le_add_right _ _))]
  simp only [Nat.add_sub_cancel_left, ← Nat.mod_eq_sub_div_mul]
  rw [Nat.add_comm (r.seg (k % r.N)).stop]
  rfl

theorem byNr_found_pos (a : Asset) (r : Rep) (cfg : Cfg) (nr nowMS : Nat) (m : Meta)
    (h : byNr a r cfg nr nowMS = .found m) : 0 < r.N := by
  revert h
  fun_cases byNr a r cfg nr nowMS with
  | case1 => nofun
  | case2 hN | case3 hN | case4 hN => exact fun _ => Nat.pos_of_ne_zero hN

theorem byTime_S (a : Asset) (r : Rep) (cfg : Cfg) (h : Contig r) (hc : Closes a r) (k nowMS : Nat) :
    byTime a r cfg (S a r k) nowMS =
      answer (checkTime (E a r k + cfg.startS * r.T) r.T nowMS cfg.tsbdS cfg.ato) (segMeta a r cfg k) := by
  have hm : k % r.N < r.N := Nat.mod_lt _ h.1
  have hwd := wrapDur_pos a r h hc
  obtain ⟨hdiv, hmod⟩ := S_div_mod a r h hc k
  have hidx : idxFromTime r.segs (r.seg (k % r.N)).start = k % r.N :=
    idxFromTime_start r.segs (contig_start_lt r h) _ hm
  unfold byTime
  simp only [← Nat.mod_eq_sub_div_mul]
  simp only [hdiv, hmod, hidx]
  rw [if_neg (Nat.ne_of_gt hwd), if_neg (Nat.ne_of_lt hm), if_neg (not_not_intro rfl), Nat.add_assoc cfg.startNr, Nat.mod_add_div',
    Nat.add_comm (r.seg (k % r.N)).stop]
  rfl

/-- a `$Time$` lookup succeeds only where the table has a segment starting at the offset of `t` in its loop -/
theorem byTime_found (a : Asset) (r : Rep) (cfg : Cfg) (t nowMS : Nat) (m : Meta)
    (h : byTime a r cfg t nowMS = .found m) :
    m.origIdx < r.N ∧ (r.seg m.origIdx).start = t % wrapDur a r ∧ m.newTime = t := by
  revert h
  fun_cases byTime a r cfg t nowMS with
  | case1 | case2 | case3 | case5 => nofun
  | case4 wd hw wraps wrapTime after idx hi s hs =>
    rintro ⟨⟩
    exact ⟨Nat.lt_of_le_of_ne (idxFromTime_le _ _) hi, (Decidable.not_not.mp hs).trans Nat.mod_eq_sub_div_mul.symm, rfl⟩

/-- the running example of the non-vacuity checks: `testpic_2s` V300, 4 segments of 2 s at 90 kHz, loop 8 s -/
def exRep : Rep where
  id := "V300"
  kind := .video
  T := 90000
  segs := [⟨0, 180000, 1⟩, ⟨180000, 360000, 2⟩, ⟨360000, 540000, 3⟩, ⟨540000, 720000, 4⟩]
  constSampleDur := 3600
  sampleDur := 3600
  preEnc := false
  stpp := false

def exAsset : Asset where
  name := "testpic_2s"
  loopMS := 8000
  segDurMS := 2000
  refId := "V300"
  reps := [exRep]

end Core
