/-! General facts about lists and sequences that several models share. -/

theorem List.mapM_some_spec {α β : Type} {f : α → Option β} : ∀ {xs : List α} {ys : List β}, xs.mapM f = some ys →
    ys.length = xs.length ∧ ∀ i (hi : i < xs.length) (hj : i < ys.length), f xs[i] = some ys[i]
  | [], ys, h => by cases h; exact ⟨rfl, nofun⟩
  | x :: xs, ys, h => by
    rw [List.mapM_cons] at h
    cases hx : f x with
    | none => simp [hx] at h
    | some y =>
      cases hr : xs.mapM f with
      | none => simp [hr] at h
      | some ys' =>
        simp only [hx, hr, Option.pure_def, Option.bind_eq_bind, Option.bind_some, Option.some.injEq] at h
        subst h
        obtain ⟨hl, hp⟩ := List.mapM_some_spec hr
        refine ⟨by simp [hl], fun i hi hj => ?_⟩
        cases i with
        | zero => exact hx
        | succ j => exact hp j (by simpa using hi) (by simpa using hj)

theorem List.mapM_some_mem {α β : Type} {f : α → Option β} {xs : List α} {ys : List β} (h : xs.mapM f = some ys)
    {y : β} (hy : y ∈ ys) : ∃ x, f x = some y := by
  obtain ⟨i, hi, rfl⟩ := List.getElem_of_mem hy
  exact ⟨_, (List.mapM_some_spec h).2 i ((List.mapM_some_spec h).1 ▸ hi) hi⟩

/-- an invariant of a left fold, indexed by the elements consumed so far -/
theorem List.foldl_inv {α σ : Type} (f : σ → α → σ) (P : List α → σ → Prop) (l : List α)
    (step : ∀ seen s d, d ∈ l → P seen s → P (seen ++ [d]) (f s d)) (seen : List α) (s : σ) (h : P seen s) :
    P (seen ++ l) (l.foldl f s) := by
  induction l generalizing seen s with
  | nil => rwa [List.append_nil]
  | cons d t ih =>
    have := ih (fun seen s x hx => step seen s x (List.mem_cons_of_mem _ hx)) _ _ (step seen s d (List.mem_cons_self ..) h)
    rwa [List.append_assoc] at this

theorem List.foldlM_inv {σ ε} (step : σ → ε → Option σ) (P : σ → Prop) (ok : ε → Prop)
    (h : ∀ s e, P s → ok e → ∃ s', step s e = some s' ∧ P s') (es : List ε) (s : σ) (hs : P s) (hes : ∀ e ∈ es, ok e) :
    ∃ s', es.foldlM step s = some s' ∧ P s' := by
  induction es generalizing s with
  | nil => exact ⟨s, rfl, hs⟩
  | cons e t ih =>
    obtain ⟨s1, h1, hp1⟩ := h s e hs (hes e (by simp))
    rw [List.foldlM_cons, h1]
    exact ih s1 hp1 (fun e' he' => hes e' (by simp [he']))

/-- what a lookup by key in an association list finds has that key and is an entry -/
theorem List.find?_fst_some {α β : Type} [BEq α] [LawfulBEq α] {l : List (α × β)} {k : α} {e : α × β}
    (h : l.find? (·.1 == k) = some e) : e.1 = k ∧ e ∈ l :=
  ⟨eq_of_beq (List.find?_some (p := fun x : α × β => x.1 == k) h), List.mem_of_find?_eq_some h⟩

theorem List.find?_fst_none {α β : Type} [BEq α] [LawfulBEq α] {l : List (α × β)} {k : α}
    (h : l.find? (·.1 == k) = none) : k ∉ l.map (·.1) := by
  intro hk
  obtain ⟨e, he, rfl⟩ := List.mem_map.mp hk
  exact List.find?_eq_none.mp h e he (beq_self_eq_true _)

/-- the entries of an association list with distinct keys are determined by their key -/
theorem List.eq_of_fst_eq_of_nodup {α β : Type} {l : List (α × β)} (h : (l.map (·.1)).Nodup) {p q : α × β}
    (hp : p ∈ l) (hq : q ∈ l) (e : p.1 = q.1) : p = q :=
  have hne : l.Pairwise (fun p q => p.1 ≠ q.1) := List.pairwise_map.mp h
  List.Pairwise.forall_of_forall_of_flip (R := fun p q => p.1 = q.1 → p = q) (fun _ _ _ => rfl)
    (hne.imp fun h e => absurd e h) (hne.imp fun h e => absurd e.symm h) hp hq e

/-! ## strictly increasing sequences -/

theorem lt_of_step {f : Nat → Nat} {n : Nat} (hf : ∀ i, i + 1 < n → f i < f (i + 1)) {i j : Nat} (hij : i < j)
    (hj : j < n) : f i < f j := by
  induction j with
  | zero => exact absurd hij (Nat.not_lt_zero _)
  | succ j ih =>
    have h1 := hf j hj
    rcases Nat.lt_succ_iff_lt_or_eq.mp hij with h | rfl
    · exact Nat.lt_trans (ih h (Nat.lt_of_succ_lt hj)) h1
    · exact h1

theorem lt_iff_of_strictMono {f : Nat → Nat} (hf : ∀ i j, i < j → f i < f j) {i j : Nat} : f i < f j ↔ i < j := by
  refine ⟨fun h => ?_, hf i j⟩
  rcases Nat.lt_trichotomy i j with hlt | rfl | hgt
  · exact hlt
  · exact absurd h (Nat.lt_irrefl _)
  · exact absurd h (Nat.lt_asymm (hf j i hgt))

theorem le_self_of_step {f : Nat → Nat} (hf : ∀ k, f k < f (k + 1)) : ∀ n, n ≤ f n
  | 0 => Nat.zero_le _
  | n + 1 => Nat.succ_le_of_lt (Nat.lt_of_le_of_lt (le_self_of_step hf n) (hf n))
