import LivesimVerif.Model.Scte
/-! The candidate search as `List.find?`, the candidate list as one mapped list and its spacing, `createEmsgAhead` by case. -/
namespace Scte

theorem firstHit_eq_find? (s e T : Nat) (l : List Nat) :
    firstHit s e T l = l.find? fun sit => decide (s < sit - lead * T ∧ sit - lead * T ≤ e) := by
  fun_induction firstHit s e T l with
  | case1 => rfl
  | case2 sit rest h => rw [List.find?_cons, decide_eq_true h]
  | case3 sit rest h ih => rw [List.find?_cons, decide_eq_false h, ih]

theorem firstHit_sound (s e T : Nat) (l : List Nat) (x : Nat) (h : firstHit s e T l = some x) :
    x ∈ l ∧ s < x - lead * T ∧ x - lead * T ≤ e := by
  rw [firstHit_eq_find?] at h
  have hw := List.find?_some h
  exact ⟨List.mem_of_find?_eq_some h, of_decide_eq_true hw⟩

/-- if exactly one candidate's announce instant lies in the interval, it is the one returned -/
theorem firstHit_unique (s e T : Nat) (l : List Nat) (x : Nat) (hx : x ∈ l)
    (hc : s < x - lead * T ∧ x - lead * T ≤ e)
    (hu : ∀ y ∈ l, (s < y - lead * T ∧ y - lead * T ≤ e) → y = x) : firstHit s e T l = some x := by
  cases hf : firstHit s e T l with
  | none => rw [firstHit_eq_find?] at hf; exact absurd (decide_eq_true hc) (List.find?_eq_none.mp hf x hx)
  | some y => have := firstHit_sound s e T l y hf; rw [hu y this.1 this.2]

theorem mem_candidates (s T n x : Nat) :
    x ∈ candidates s T n ↔ (∃ o ∈ offsets n, x = (s - s % (60 * T)) + o * T) ∨ x = (s - s % (60 * T)) + 70 * T := by
  simp only [candidates, List.mem_append, List.mem_map, List.mem_singleton, @eq_comm _ x]

theorem offsets_mem (n : Nat) : ∀ o ∈ offsets n, o = 10 ∨ o = 36 ∨ o = 40 ∨ o = 46 := by
  fun_cases offsets n <;> decide

/-- the schedule of a minute followed by the next minute's first splice, in seconds: steps of at least 10 -/
theorem offsets_spaced (n : Nat) : (offsets n ++ [70]).Pairwise (fun a b => a + 10 ≤ b) := by
  fun_cases offsets n <;> decide

theorem candidates_eq (s T n : Nat) :
    candidates s T n = (offsets n ++ [70]).map fun o => (s - s % (60 * T)) + o * T := by
  rw [List.map_append]; rfl

theorem candidates_pairwise (s T n : Nat) : (candidates s T n).Pairwise (fun x y => x + 10 * T ≤ y) := by
  rw [candidates_eq]
  exact (offsets_spaced n).map _ fun a b h => by have := Nat.mul_le_mul_right T h; rw [Nat.add_mul] at this; omega

/-- distinct candidates are at least 10 s apart -/
theorem candidates_spaced (s T n x y : Nat) (hx : x ∈ candidates s T n) (hy : y ∈ candidates s T n)
    (hne : x ≠ y) : x + 10 * T ≤ y ∨ y + 10 * T ≤ x :=
  have hp := candidates_pairwise s T n
  List.Pairwise.forall_of_forall_of_flip (R := fun x y => x ≠ y → x + 10 * T ≤ y ∨ y + 10 * T ≤ x)
    (fun _ _ h => absurd rfl h) (hp.imp fun h _ => .inl h) (hp.imp fun h _ => .inr h) hx hy hne

/-- two announce instants in the same interval `(s, e]` of at most 10 s are less than 10 s apart -/
theorem window_close {s e T x y : Nat} (hd : e ≤ s + 10 * T) (hx : s < x - lead * T ∧ x - lead * T ≤ e)
    (hy : s < y - lead * T ∧ y - lead * T ≤ e) : y < x + 10 * T := by
  unfold lead at hx hy; omega

/-! ## `createEmsgAhead` by case, and the minute start in whole seconds -/

theorem validN_iff (n : Nat) : validN n = true ↔ n = 1 ∨ n = 2 ∨ n = 3 := by
  simp [validN, or_assoc]

theorem createEmsgAhead_of_valid {n : Nat} (hn : validN n = true) (s e T : Nat) :
    createEmsgAhead s e T n = match firstHit s e T (candidates s T n) with
      | some sit => .ev (mkEv sit T n)
      | none => .none := by
  unfold createEmsgAhead; rw [hn]; rfl

theorem createEmsgAhead_of_invalid {n : Nat} (hn : validN n = false) (s e T : Nat) :
    createEmsgAhead s e T n = .invalid := by
  unfold createEmsgAhead; rw [hn]; rfl

theorem minuteStart_eq (s T : Nat) : s - s % (60 * T) = 60 * (s / T / 60) * T := by
  rw [Nat.div_div_eq_div_mul, Nat.mul_comm T 60, Nat.mul_right_comm]
  have := Nat.div_add_mod s (60 * T)
  omega

end Scte
