import LivesimVerif.Model.Cfg
import LivesimVerif.Lemmas.Fault
import LivesimVerif.Lemmas.List
/-!
# Lemmas about the URL configuration model (`Model/Cfg.lean`)
-/

namespace Cfg
open Core

theorem wrap64_eq_self {x : Int} (h1 : -9223372036854775808 ≤ x) (h2 : x < 9223372036854775808) : wrap64 x = x := by
  unfold wrap64
  rw [Int.emod_eq_of_lt (by omega) (by omega)]
  exact Int.add_sub_cancel x _

/-- the part of the configuration that `verifyAndFillConfig` does not re-check: it is established by the parsers -/
def Inv (c : C) : Prop :=
  (∀ k ∈ c.codes, codeOk k = true) ∧ (∀ t ∈ c.traffic, t ≠ [] ∧ GoodItvls t)

/-- `c'` has the fields of `c` that `Inv` speaks of -/
def Same (c c' : C) : Prop := c'.codes = c.codes ∧ c'.traffic = c.traffic

theorem Inv.same {c c' : C} (hinv : Inv c) (h : Same c c') : Inv c' := by
  unfold Inv; rw [h.1, h.2]; exact hinv

theorem codeOk_iff {k : Code} :
    codeOk k = true ↔ 0 < k.cycle ∧ k.cycle ≤ maxTimeS ∧ 0 ≤ k.rsq ∧ 400 ≤ k.code ∧ k.code ≤ 599 := by
  simp only [codeOk, Bool.and_eq_true, decide_eq_true_eq, and_assoc]

theorem parseCodes_ok {val : String} {l : List Code} (h : parseCodes val = some l) : ∀ k ∈ l, codeOk k = true := by
  revert h
  fun_cases parseCodes val with
  | case1 | case2 | case4 => exact nofun
  | case3 _ _ _ cs _ hall =>
    intro h
    cases h
    exact fun k hk => List.all_eq_true.mp hall k hk

theorem parseTraffic_ok {val : String} {l : List (List LossItvl)} (h : parseTraffic val = some l) :
    ∀ t ∈ l, t ≠ [] ∧ GoodItvls t := by
  unfold parseTraffic at h
  split at h
  · cases h; nofun
  · exact fun t ht => have ⟨_, hx⟩ := List.mapM_some_mem h ht; parseLoss_good hx

theorem intSetters_same (nowMS : Int) : ∀ e ∈ intSetters nowMS, ∀ (c : C) (n : Int), Same c (e.2 c n) := by
  unfold intSetters
  repeat refine List.forall_mem_cons.mpr ⟨fun _ _ => ⟨rfl, rfl⟩, ?_⟩
  nofun

theorem flagSetters_same : ∀ e ∈ flagSetters, ∀ (c : C), Same c (e.2 c) := by
  unfold flagSetters
  repeat refine List.forall_mem_cons.mpr ⟨fun _ => ⟨rfl, rfl⟩, ?_⟩
  nofun

theorem withInt_cont {val : String} {f : Int → C} {c' : C} (h : withInt val f = .cont c') : ∃ n, c' = f n := by
  unfold withInt at h
  split at h
  · cases h
  · cases h; exact ⟨_, rfl⟩

theorem withInt_fail {val : String} {f : Int → C} (h : atoi val = none) : withInt val f = .fail := by
  unfold withInt; rw [h]

theorem withInt_ne_content {val : String} {f : Int → C} : withInt val f ≠ .content := by
  fun_cases withInt val f <;> nofun

theorem intSetters_keys (nowMS : Int) : (intSetters nowMS).map (·.1) = intKeys := by
  unfold intKeys intSetters
  simp only [List.map]

/-- the three ways of `step` on a part `key_val`, by the class of the key: an integer parameter, a flag, another one -/
theorem step_some (nowMS : Int) (c : C) (key val : String) :
    (key ∈ intKeys ∧ ∃ e ∈ intSetters nowMS, step nowMS c (some (key, val)) = withInt val (e.2 c)) ∨
    key ∉ intKeys ∧ ((key ∈ flagKeys ∧ ∃ e ∈ flagSetters, step nowMS c (some (key, val)) = .cont (e.2 c)) ∨
      key ∉ flagKeys ∧ step nowMS c (some (key, val)) = special c key val) := by
  unfold step
  simp only
  cases hi : (intSetters nowMS).find? (·.1 == key) with
  | some e =>
    obtain ⟨rfl, he⟩ := List.find?_fst_some hi
    exact .inl ⟨intSetters_keys nowMS ▸ List.mem_map_of_mem he, e, he, rfl⟩
  | none =>
    refine .inr ⟨intSetters_keys nowMS ▸ List.find?_fst_none hi, ?_⟩
    cases hf : flagSetters.find? (·.1 == key) with
    | some e =>
      obtain ⟨rfl, he⟩ := List.find?_fst_some hf
      exact .inl ⟨List.mem_map_of_mem he, e, he, rfl⟩
    | none => exact .inr ⟨List.find?_fst_none hf, rfl⟩

theorem ite_cases {α : Type} {P : α → Prop} {p : Prop} [Decidable p] {a b : α} (ha : P a) (hb : ¬p → P b) :
    P (if p then a else b) := by
  split
  · exact ha
  · exact hb ‹_›

/-- Case analysis of `special`: a `cont` result differs from `c` outside `codes` and `traffic`, or carries checked codes,
or checked traffic patterns; `content` arises only for a key that is none of `otherKeys`.  The proof has the shape of
the definition, one `ite_cases` per link (`split` on the whole chain is very slow). -/
theorem special_cases {P : Step → Prop} (c : C) (key val : String) (fail : P .fail)
    (same : ∀ c', Same c c' → P (.cont c'))
    (codes : ∀ l, parseCodes val = some l → P (.cont (setCodes c l)))
    (traffic : ∀ l, parseTraffic val = some l → P (.cont (setTraffic c l)))
    (content : key ∉ otherKeys → P .content) : P (special c key val) := by
  unfold special
  refine ite_cases (match parseFloat val with | none => fail | some _ => same _ ⟨rfl, rfl⟩) fun h1 =>
    ite_cases fail fun h2 =>
    ite_cases (match splitUTC val with | none => fail | some _ => same _ ⟨rfl, rfl⟩) fun h3 =>
    ite_cases (ite_cases (same _ ⟨rfl, rfl⟩) fun _ =>
      match parseFloat val with | none => fail | some _ => same _ ⟨rfl, rfl⟩) fun h4 =>
    ite_cases (match parseFloat val with
      | none => fail
      | some (.fin _) => ite_cases fail fun _ => same _ ⟨rfl, rfl⟩
      | some .ninf => fail
      | some .pinf => same _ ⟨rfl, rfl⟩
      | some .nan => same _ ⟨rfl, rfl⟩) fun h5 =>
    ite_cases (same _ ⟨rfl, rfl⟩) fun h6 =>
    ite_cases (same _ ⟨rfl, rfl⟩) fun h7 =>
    ite_cases (match h : parseCodes val with | none => fail | some l => codes l h) fun h8 =>
    ite_cases (match h : parseTraffic val with | none => fail | some l => traffic l h) fun h9 =>
    ite_cases (same _ ⟨rfl, rfl⟩) fun h10 =>
    ite_cases (same _ ⟨rfl, rfl⟩) fun h11 =>
    ite_cases (match parseQuery val with | none => fail | some _ => same _ ⟨rfl, rfl⟩) fun h12 =>
    content ?_
  simp only [otherKeys, List.mem_cons, List.not_mem_nil, h1, h2, h3, h4, h5, h6, h7, h8, h9, h10, h11, h12, or_self,
    not_false_eq_true]

end Cfg
