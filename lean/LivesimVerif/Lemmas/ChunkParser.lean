import LivesimVerif.Model.ChunkParser
/-! Helper lemmas for the chunk-parser model (C18): one specification per operation (`Rd.read`, `readUntil`, `flush`,
`deliverAll`), then the two inductions over `parse` that hold for every reader and every error injection
(byte conservation, termination). -/
namespace CP

def data (cbs : List Cb) : List Byte := (cbs.map (·.data)).flatten

theorem data_append (a b : List Cb) : data (a ++ b) = data a ++ data b := by
  simp [data]

theorem data_single (c : Cb) : data [c] = c.data := by simp [data]

/-! ## the reader -/

/-- one `Read`, whatever the schedule and the error injection -/
structure ReadSpec (r : Rd) (cap : Nat) (rr : ReadRes) : Prop where
  bytes : rr.got ++ rr.rd.rest = r.rest
  le : rr.got.length ≤ cap
  eof : rr.err = .eof → rr.rd.rest = []
  progress : 0 < cap → rr.err = .none → rr.rd.rest.length < r.rest.length
  nofail : r.failRead = none → rr.rd.failRead = none ∧ rr.err ≠ .fail

theorem read_spec (r : Rd) (cap : Nat) : ReadSpec r cap (r.read cap) := by
  fun_cases Rd.read r cap with
  | case1 hf =>   -- the injected failure
    exact { bytes := rfl, le := Nat.zero_le _, eof := nofun, progress := fun _ => nofun,
            nofail := fun h => by rw [h] at hf; cases hf }
  | case2 hf hr =>   -- nothing left: `(0, io.EOF)`
    exact { bytes := rfl, le := Nat.zero_le _, eof := fun _ => hr, progress := fun _ => nofun,
            nofail := fun h => ⟨by rw [h]; rfl, nofun⟩ }
  | case3 hf a as hr =>   -- bytes are left
    have hl : 0 < r.rest.length := by rw [hr]; exact Nat.succ_pos _
    have hn : r.n cap ≤ cap ∧ (0 < cap → 0 < r.n cap) :=
      ⟨Nat.le_trans (Nat.min_le_left ..) (Nat.min_le_right ..),
        fun hc => Nat.lt_min.mpr ⟨Nat.lt_min.mpr ⟨Nat.lt_of_lt_of_le Nat.one_pos (Nat.le_max_right ..), hc⟩, hl⟩⟩
    exact {
      bytes := List.take_append_drop ..
      le := by rw [List.length_take]; exact Nat.le_trans (Nat.min_le_left ..) hn.1
      eof := fun h => by
        split at h
        · next hc => exact List.isEmpty_iff.mp (Bool.and_eq_true_iff.mp hc).1
        · cases h
      progress := fun hc _ => by rw [List.length_drop]; exact Nat.sub_lt hl (hn.2 hc)
      nofail := fun h => ⟨by rw [h]; rfl, by split <;> exact RdErr.noConfusion⟩ }

theorem read_progress (r : Rd) (cap : Nat) (hc : 0 < cap) (he : (r.read cap).err = .none) :
    (r.read cap).rd.rest.length < r.rest.length :=
  (read_spec r cap).progress hc he

/-! ## `readUntil` -/

/-- what `readUntil` does, for every reader: it moves bytes from the reader to the buffer, never beyond `target`,
and touches nothing else; with fuel for one `Read` per byte it stops only at the target or at an error -/
structure RUSpec (fuel : Nat) (st : St) (target : Nat) (r : RU) : Prop where
  frame : r.st = { st with content := r.st.content, rd := r.st.rd }
  bytes : ∃ got, r.st.content = st.content ++ got ∧ st.rd.rest = got ++ r.st.rd.rest
  le : st.content.length ≤ target → r.st.content.length ≤ target
  eof : r.err = .eof → r.st.rd.rest = []
  short : r.err ≠ .none → r.st.content.length < target
  reach : st.rd.rest.length < fuel → r.err = .none → target ≤ r.st.content.length
  nofail : st.rd.failRead = none → r.st.rd.failRead = none ∧ r.err ≠ .fail

theorem readUntil_spec (fuel : Nat) (st : St) (target : Nat) : RUSpec fuel st target (readUntil fuel st target) := by
  fun_induction readUntil fuel st target with
  | case1 st target =>   -- no fuel
    exact { frame := rfl, bytes := ⟨[], by simp⟩, le := id, eof := nofun, short := nofun, reach := fun h => by omega,
            nofail := fun h => ⟨h, nofun⟩ }
  | case2 fuel st target h =>   -- the target is reached already
    exact { frame := rfl, bytes := ⟨[], by simp⟩, le := id, eof := nofun, short := nofun, reach := fun _ _ => h,
            nofail := fun h => ⟨h, nofun⟩ }
  | case3 fuel st target h rr st' h2 =>   -- one `Read` reaches the target: its error (EOF) is deferred
    have S : ReadSpec _ _ rr := read_spec ..
    exact {
      frame := rfl
      bytes := ⟨rr.got, rfl, S.bytes.symm⟩
      le := fun _ => by
        show (st.content ++ rr.got).length ≤ target
        have := S.le; rw [List.length_append]; omega
      eof := nofun
      short := nofun
      reach := fun _ _ => h2
      nofail := fun hf => ⟨(S.nofail hf).1, nofun⟩ }
  | case4 fuel st target h rr st' h2 h3 =>   -- the `Read` ends short of the target with an error
    have S : ReadSpec _ _ rr := read_spec ..
    exact { frame := rfl, bytes := ⟨rr.got, rfl, S.bytes.symm⟩, le := fun _ => Nat.le_of_lt (Nat.lt_of_not_le h2),
            eof := S.eof, short := fun _ => Nat.lt_of_not_le h2, reach := fun _ he => absurd he h3, nofail := S.nofail }
  | case5 fuel st target h rr st' h2 h3 ih =>   -- short of the target without error: read on
    have S : ReadSpec _ _ rr := read_spec ..
    obtain ⟨got, hc, hr⟩ := ih.bytes
    exact {
      frame := ih.frame
      bytes := ⟨rr.got ++ got, by rw [hc, List.append_assoc], by rw [← S.bytes, List.append_assoc]; exact congrArg _ hr⟩
      le := fun _ => ih.le (by omega)
      eof := ih.eof
      short := ih.short
      reach := fun hf => ih.reach <| by
        have := S.progress (by omega) (Decidable.not_not.mp h3)
        show rr.rd.rest.length < fuel; omega
      nofail := fun hf => ih.nofail (S.nofail hf).1 }

theorem RUSpec.out {fuel st target r} (R : RUSpec fuel st target r) : r.st.out = st.out := by rw [R.frame]
theorem RUSpec.next {fuel st target r} (R : RUSpec fuel st target r) : r.st.next = st.next := by rw [R.frame]
theorem RUSpec.mdatEnd {fuel st target r} (R : RUSpec fuel st target r) : r.st.mdatEnd = st.mdatEnd := by rw [R.frame]

theorem RUSpec.total {fuel st target r} (R : RUSpec fuel st target r) :
    r.st.content.length + r.st.rd.rest.length = st.content.length + st.rd.rest.length := by
  obtain ⟨got, hc, hr⟩ := R.bytes
  rw [hc, hr, List.length_append, List.length_append, Nat.add_assoc]

/-! ## the byte-conservation invariant -/

def Inv (input : List Byte) (st : St) : Prop := data st.out ++ st.content ++ st.rd.rest = input

theorem inv_readUntil {input st fuel target r} (R : RUSpec fuel st target r) (h : Inv input st) : Inv input r.st := by
  obtain ⟨got, hc, hr⟩ := R.bytes
  unfold Inv at *
  rw [R.out, hc, ← h, hr]; simp only [List.append_assoc]

theorem inv_hdrStep {input st} (h : Inv input st) : Inv input (hdrStep st) := h

theorem inv_box {input st} (h : Inv input st) (f1 t1 f3 t3 : Nat) :
    Inv input (readUntil f3 (hdrStep (readUntil f1 st t1).st) t3).st :=
  inv_readUntil (readUntil_spec ..) (inv_hdrStep (inv_readUntil (readUntil_spec ..) h))

theorem callBack_out (st : St) (d : List Byte) :
    (callBack st d).st.out = st.out ++ [{ start := st.start, isInit := st.isInit, data := d }] := rfl

theorem flush_of_ne {st : St} (h : st.mdatEnd ≠ st.content.length) : flush st = { st := st, failed := false } := by
  unfold flush; rw [if_neg h]

theorem flush_of_eq {st : St} (h : st.mdatEnd = st.content.length) : flush st =
    { st := { (callBack st st.content).st with start := (st.start + st.content.length) % U32, content := [],
                                                next := st.next - st.content.length, mdatEnd := 0 },
      failed := st.failCb = some 0 } := by
  unfold flush; rw [if_pos h, h, List.take_length, List.drop_length]; rfl

theorem inv_flush {input st} (h : Inv input st) : Inv input (flush st).st := by
  by_cases hm : st.mdatEnd = st.content.length
  · rw [flush_of_eq hm]
    unfold Inv at *
    simpa [callBack, data_append, data_single] using h
  · rw [flush_of_ne hm]; exact h

theorem flush_failed {st : St} (h : st.failCb = none) : (flush st).failed = false := by
  unfold flush; split
  · show decide (st.failCb = some 0) = false; rw [h]; rfl
  · rfl

theorem flush_rd (st : St) : (flush st).st.rd = st.rd := by
  unfold flush; split <;> rfl

theorem deliverAll_data_eq (st : St) : data (deliverAll st).cbs = data st.out ++ st.content := by
  unfold deliverAll
  split
  · simp only; split <;> simp [Res.cbs, callBack, data_append, data_single]
  · next hl => simp [Res.cbs, List.eq_nil_of_length_eq_zero (Nat.eq_zero_of_not_pos hl)]

/-- the EOF branch hands over everything that is buffered: a prefix of the input, and all of it at end of input -/
theorem deliverAll_data {input st} (h : Inv input st) :
    (∃ t, data (deliverAll st).cbs ++ t = input) ∧
    (st.rd.rest = [] → ∀ cbs, deliverAll st = .done cbs → data cbs = input) := by
  have hd := deliverAll_data_eq st
  refine ⟨⟨st.rd.rest, by rw [hd]; exact h⟩, fun hr cbs hc => ?_⟩
  rw [hc] at hd
  rw [← h, hr, List.append_nil]; exact hd

theorem inv_prefix {input st} (h : Inv input st) : ∃ t, data st.out ++ t = input :=
  ⟨st.content ++ st.rd.rest, by rw [← List.append_assoc]; exact h⟩

/-- C18 core: whatever the schedule, error injection and fuel: the callbacks carry a prefix of the
input in order, and when `Parse` returns nil they carry exactly the input. -/
theorem parse_bytes (fuel : Nat) (input : List Byte) (st : St) (h : Inv input st) :
    (∃ t, data (parse fuel st).cbs ++ t = input) ∧
    (∀ cbs, parse fuel st = .done cbs → data cbs = input) := by
  fun_induction parse fuel st with
  | case1 st => exact ⟨inv_prefix h, nofun⟩   -- no fuel
  | case2 fuel st r1 h1 => exact ⟨inv_prefix (inv_readUntil (readUntil_spec ..) h), nofun⟩   -- header read fails
  | case3 fuel st r1 h1 =>   -- end of input in the header
    have R1 : RUSpec _ _ _ r1 := readUntil_spec ..
    have := deliverAll_data (inv_readUntil R1 h)
    exact ⟨this.1, this.2 (R1.eof h1)⟩
  | case4 fuel st r1 h1 hs => exact ⟨inv_prefix (inv_readUntil (readUntil_spec ..) h), nofun⟩   -- size refused
  | case5 fuel st r1 h1 hs st2 r3 h3 => exact ⟨inv_prefix (inv_box h ..), nofun⟩   -- body read fails
  | case6 fuel st r1 h1 hs st2 r3 h3 f hf => exact ⟨inv_prefix (inv_flush (inv_box h ..)), nofun⟩   -- callback fails
  | case7 fuel st r1 h1 hs st2 r3 h3 f hf he =>   -- end of input in the body
    have R3 : RUSpec _ _ _ r3 := readUntil_spec ..
    have := deliverAll_data (st := f.st) (inv_flush (inv_box h ..))
    exact ⟨this.1, this.2 (by rw [flush_rd]; exact R3.eof he)⟩
  | case8 fuel st r1 h1 hs st2 r3 h3 f hf he ih => exact ih (inv_flush (inv_box h ..))   -- next box

theorem inv_init (input sched e fr fc) : Inv input (init input sched e fr fc) := by
  simp [Inv, init, data]

/-! ## termination (with the size guard of the fix) -/

/-- bytes not yet walked over: buffered + unread − nextBoxStart -/
def M (st : St) : Nat := st.content.length + st.rd.rest.length - st.next

theorem hdrStep_rd (st : St) : (hdrStep st).rd = st.rd := rfl
theorem hdrStep_content (st : St) : (hdrStep st).content = st.content := rfl
theorem hdrStep_out (st : St) : (hdrStep st).out = st.out := rfl
theorem hdrStep_next (st : St) : (hdrStep st).next = st.next + hdrSize st := rfl

/-- the guard as `parse` tests it -/
theorem sizeOk_ge {st : St} (hs : ¬(!sizeOk st) = true) : 8 ≤ hdrSize st := by
  unfold sizeOk at hs
  rw [Bool.not_eq_true, Bool.not_eq_false', Bool.and_eq_true_iff] at hs
  exact of_decide_eq_true hs.1

theorem hdrStep_mdatEnd_le {st : St} (h : st.mdatEnd ≤ st.next) : (hdrStep st).mdatEnd ≤ (hdrStep st).next := by
  show (if hdrType st == mdatTag then st.next + hdrSize st else st.mdatEnd) ≤ st.next + hdrSize st
  split
  · exact Nat.le_refl _
  · exact Nat.le_trans h (Nat.le_add_right ..)

theorem flush_measure (st : St) (hw : st.mdatEnd ≤ st.next) :
    M (flush st).st = M st ∧ (flush st).st.mdatEnd ≤ (flush st).st.next := by
  by_cases h : st.mdatEnd = st.content.length
  · rw [flush_of_eq h]
    refine ⟨?_, Nat.zero_le _⟩
    -- buffer and `next` both go down by the length of the buffer
    obtain ⟨k, hk⟩ := Nat.exists_eq_add_of_le (h ▸ hw)
    show 0 + st.rd.rest.length - (st.next - st.content.length) = st.content.length + st.rd.rest.length - st.next
    rw [hk, Nat.zero_add, Nat.add_sub_cancel_left, Nat.add_sub_add_left]
  · rw [flush_of_ne h]; exact ⟨rfl, hw⟩

theorem deliverAll_ne_outOfFuel (st : St) : ∀ s, deliverAll st ≠ .outOfFuel s := by
  fun_cases deliverAll st with
  | case1 | case2 | case3 => exact fun _ => Res.noConfusion

/-- no input makes the (fixed) parser spin: the measure drops by ≥ 8 per round.  `mdatEnd ≤ next` is carried along
because `flush` sets `next − mdatEnd`: were that subtraction truncated, the measure would not be kept. -/
theorem parse_terminates (fuel : Nat) (st : St) (hw : st.mdatEnd ≤ st.next) (hm : M st < 8 * fuel) :
    ∀ s, parse fuel st ≠ .outOfFuel s := by
  fun_induction parse fuel st with
  | case1 st => omega
  | case3 | case7 => exact deliverAll_ne_outOfFuel _   -- end of input
  | case2 | case4 | case5 | case6 => exact fun _ => Res.noConfusion   -- the error returns
  | case8 fuel st r1 h1 hs st2 r3 h3 f hf he ih =>
    have R1 : RUSpec _ _ _ r1 := readUntil_spec ..
    have R3 : RUSpec _ _ _ r3 := readUntil_spec ..
    have e2 : st2 = hdrStep r1.st := rfl
    have ef : f = flush r3.st := rfl
    -- from here on the variables are opaque: a unification that has to look through their values evaluates the model
    clear_value f r3 st2 r1
    subst ef e2
    have hsz := sizeOk_ge hs
    have m2 := hdrStep_mdatEnd_le (st := r1.st) (by rw [R1.mdatEnd, R1.next]; exact hw)
    have f4 := flush_measure r3.st (by rw [R3.mdatEnd, R3.next]; exact m2)
    refine ih f4.2 ?_
    have t1 : st.next + 8 ≤ r1.st.content.length + r1.st.rd.rest.length :=
      Nat.le_trans (R1.reach (Nat.lt_succ_self _) h1) (Nat.le_add_right ..)
    have e3 : _ = r1.st.content.length + r1.st.rd.rest.length := R3.total
    unfold M at hm
    rw [f4.1, M, e3, R3.next, hdrStep_next, R1.next]
    rw [R1.total] at t1 ⊢
    omega

theorem init_M (input sched e fr fc) : M (init input sched e fr fc) = input.length := by
  simp [M, init]

theorem run_terminates (input sched e fr fc) : ∀ s, run input sched e fr fc ≠ .outOfFuel s := by
  unfold run
  apply parse_terminates
  · simp [init]
  · rw [init_M]; unfold fuelFor; omega

end CP
