import LivesimVerif.Model.Audio
import LivesimVerif.Lemmas.Core
/-!
# Which VoD frames make up a re-segmented audio segment (`createAudioSeg`)

For a VoD audio representation on a *frame grid* (the first segment starts at 0, every segment is a positive whole number
of frames long, and the segments follow each other without gap), the frames `createAudioSeg` collects for a recipe whose
bounds are whole frames are exactly the frames at those positions of the source — with the last frame repeated where the
recipe reaches beyond the source, and the frames from the start of the source for the part after the loop wrap.

Positions are global frame indices: segment `j` holds the frames `frameBase j … frameBase (j+1) − 1`.  The two lemmas on
one round of a loop (`collectLoop_round`, `afterWrapLoop_round`) turn the tick comparisons of the code into comparisons
of positions once; the inductions below them are about positions and lists only.
-/
namespace Core

/-- the audio representation is on a frame grid of frame duration `fd` -/
structure Grid (r : Rep) (fd : Nat) : Prop where
  pos : 0 < fd
  ne : 0 < r.N
  start0 : (r.seg 0).start = 0
  len : ∀ i, i < r.N → (r.seg i).stop = (r.seg i).start + segFrames r fd i * fd
  nonempty : ∀ i, i < r.N → 0 < segFrames r fd i
  next : ∀ i, i + 1 < r.N → (r.seg (i + 1)).start = (r.seg i).stop

theorem Grid.start_eq {r : Rep} {fd : Nat} (g : Grid r fd) : ∀ i, i < r.N → (r.seg i).start = frameBase r fd i * fd
  | 0, _ => by rw [g.start0, frameBase, Nat.zero_mul]
  | i + 1, h => by
    rw [g.next i h, g.len i (Nat.lt_of_succ_lt h), g.start_eq i (Nat.lt_of_succ_lt h), frameBase, Nat.add_mul]

theorem Grid.stop_eq {r : Rep} {fd : Nat} (g : Grid r fd) (i : Nat) (h : i < r.N) :
    (r.seg i).stop = frameBase r fd (i + 1) * fd := by
  rw [g.len i h, g.start_eq i h, frameBase, Nat.add_mul]

theorem frameBase_mono (r : Rep) (fd : Nat) {i j : Nat} (h : i ≤ j) : frameBase r fd i ≤ frameBase r fd j := by
  induction h with
  | refl => exact Nat.le_refl _
  | step _ ih => exact Nat.le_trans ih (Nat.le_add_right _ _)

/-- total number of frames of the source -/
def totalFrames (r : Rep) (fd : Nat) : Nat := frameBase r fd r.N

theorem Grid.dur_eq {r : Rep} {fd : Nat} (g : Grid r fd) : r.dur = totalFrames r fd * fd := by
  have h1 := g.stop_eq (r.N - 1) (Nat.sub_lt g.ne Nat.one_pos)
  rw [Nat.sub_add_cancel g.ne] at h1
  rw [r.dur_eq g.ne, h1, g.start0]; rfl

/-- the output frames for the positions `p … b − 1` of a looped source of `F` frames: the source frames up to the last one,
which is repeated for the positions beyond the source -/
def srcFrames (F p b : Nat) : List Nat := List.range' p (min b F - p) ++ List.replicate (b - F) (F - 1)

theorem srcFrames_of_le {F p b : Nat} (h : b ≤ F) : srcFrames F p b = List.range' p (b - p) := by
  rw [srcFrames, Nat.min_eq_left h, Nat.sub_eq_zero_of_le h, List.replicate_zero, List.append_nil]

theorem srcFrames_of_ge {F p b : Nat} (h : F ≤ b) :
    srcFrames F p b = List.range' p (F - p) ++ List.replicate (b - F) (F - 1) := by
  rw [srcFrames, Nat.min_eq_right h]

theorem range'_append_sub {p q b : Nat} (hpq : p ≤ q) (hqb : q ≤ b) :
    List.range' p (q - p) ++ List.range' q (b - q) = List.range' p (b - p) := by
  have := List.range'_append_1 (s := p) (m := q - p) (n := b - q)
  rwa [Nat.add_sub_cancel' hpq, Nat.add_comm, Nat.sub_add_sub_cancel hqb hpq] at this

theorem range'_append_srcFrames {F p q b : Nat} (hpq : p ≤ q) (hqb : q ≤ b) (hqF : q ≤ F) :
    List.range' p (q - p) ++ srcFrames F q b = srcFrames F p b := by
  rw [srcFrames, ← List.append_assoc, range'_append_sub hpq (Nat.le_min.mpr ⟨hqb, hqF⟩), srcFrames]

/-! ## interval lists -/

theorem setLastEnd_append (pre : List Itvl) (x : Itvl) (e : Nat) :
    setLastEnd (pre ++ [x]) e = pre ++ [{ x with endIdx := e }] := by
  simp [setLastEnd, List.reverse_append]

theorem setLastFill_append (pre : List Itvl) (x : Itvl) (f : Nat) :
    setLastFill (pre ++ [x]) f = pre ++ [{ x with fill := f }] := by
  simp [setLastFill, List.reverse_append]

theorem lastDur_append (pre : List Itvl) (x : Itvl) (fd : Nat) :
    lastDur (pre ++ [x]) fd = (x.endIdx - x.startIdx) * fd := by
  simp [lastDur]

/-- the frames of a list of intervals -/
def framesOf (r : Rep) (fd : Nat) (l : List Itvl) : Option (List Nat) := (l.mapM (itvlFrames r fd)).map List.flatten

theorem framesOf_append {r : Rep} {fd : Nat} {l₁ l₂ : List Itvl} {A B : List Nat}
    (h1 : framesOf r fd l₁ = some A) (h2 : framesOf r fd l₂ = some B) : framesOf r fd (l₁ ++ l₂) = some (A ++ B) := by
  unfold framesOf at *
  rw [List.mapM_append]
  cases hm1 : l₁.mapM (itvlFrames r fd) with
  | none => simp [hm1] at h1
  | some as =>
    cases hm2 : l₂.mapM (itvlFrames r fd) with
    | none => simp [hm2] at h2
    | some bs => simp_all

/-- closing one more interval appends its frames -/
theorem framesOf_snoc {r : Rep} {fd : Nat} {l : List Itvl} {x : Itvl} {A B : List Nat}
    (hl : framesOf r fd l = some A) (hx : itvlFrames r fd x = some B) : framesOf r fd (l ++ [x]) = some (A ++ B) :=
  framesOf_append hl (by simp [framesOf, hx])

theorem itvlFrames_eq {r : Rep} {fd : Nat} (g : Grid r fd) {j p q : Nat} (fill : Nat) (hj : j < r.N)
    (hp : frameBase r fd j ≤ p) (hpq : p ≤ q) (hq : q ≤ frameBase r fd (j + 1)) :
    itvlFrames r fd ⟨j, p - frameBase r fd j, q - frameBase r fd j, fill⟩ =
      some (List.range' p (q - p) ++ List.replicate fill (frameBase r fd (j + 1) - 1)) := by
  have hn := g.nonempty j hj
  have hq' : q - frameBase r fd j ≤ segFrames r fd j := Nat.sub_le_iff_le_add'.mpr hq
  unfold itvlFrames
  simp only [Nat.add_sub_cancel' hp, Nat.sub_sub_sub_cancel_right hp]
  rw [if_neg (Nat.not_le.mpr hj), if_neg fun h => h.elim (Nat.not_lt.mpr (Nat.sub_le_sub_right hpq _)) (Nat.not_lt.mpr hq'),
    if_neg fun h => Nat.ne_of_gt hn h.2]
  rfl

/-! ## the collecting loop -/

/-- one round of the loop with an interval open at position `p` of source segment `j`, in positions: the recipe ends in
this segment, or goes on into the next one, or reaches beyond the last one, whose last frame is then repeated.  The
interval opened in the next segment has its start index written `frameBase (j+1) − frameBase (j+1)`, not 0: the shape
`p − frameBase j` at `p = frameBase (j+1)`, so that the induction hypothesis of `collect_from` applies literally. -/
theorem collectLoop_round {r : Rep} {fd : Nat} (g : Grid r fd) {rec : Recipe} {b : Nat} (hb : rec.inEnd = b * fd)
    (fuel : Nat) {j p : Nat} (pre : List Itvl) (col ns : Nat) (hj : j < r.N) (hin : rec.inStart < (r.seg j).stop)
    (hp : frameBase r fd j ≤ p) :
    collectLoop r rec fd (fuel + 1) j ⟨pre ++ [⟨j, p - frameBase r fd j, 0, 0⟩], col, ns⟩ =
      if b ≤ frameBase r fd (j + 1) then
        some ⟨pre ++ [⟨j, p - frameBase r fd j, b - frameBase r fd j, 0⟩], col + (b - p) * fd,
          if frameBase r fd (j + 1) = b then frameBase r fd (j + 1) * fd else ns⟩
      else if j < r.N - 1 then
        collectLoop r rec fd fuel (j + 1)
          ⟨(pre ++ [⟨j, p - frameBase r fd j, frameBase r fd (j + 1) - frameBase r fd j, 0⟩]) ++
              [⟨j + 1, frameBase r fd (j + 1) - frameBase r fd (j + 1), 0, 0⟩],
            col + (frameBase r fd (j + 1) - p) * fd, frameBase r fd (j + 1) * fd⟩
      else
        some ⟨pre ++ [⟨j, p - frameBase r fd j, frameBase r fd (j + 1) - frameBase r fd j, b - frameBase r fd (j + 1)⟩],
          col + (frameBase r fd (j + 1) - p) * fd + (b - frameBase r fd (j + 1)) * fd, frameBase r fd (j + 1) * fd⟩ := by
  have hne : (pre ++ [(⟨j, p - frameBase r fd j, 0, 0⟩ : Itvl)]).isEmpty = false := by simp
  conv => lhs; unfold collectLoop
  simp only [Nat.not_le.mpr hj, Nat.not_le.mpr hin, if_false, hne, Bool.false_eq_true, and_false, setLastEnd_append,
    lastDur_append, setLastFill_append]
  -- the tick comparisons of the code as comparisons of positions
  rw [hb, g.stop_eq j hj, g.start_eq j hj]
  simp only [← Nat.sub_mul, Nat.mul_div_cancel _ g.pos, ge_iff_le, Nat.mul_le_mul_right_iff g.pos,
    Nat.mul_right_cancel_iff g.pos, Nat.sub_sub_sub_cancel_right hp, Nat.sub_self]
  rcases Nat.lt_trichotomy b (frameBase r fd (j + 1)) with h | rfl | h
  · rw [if_neg (Nat.not_le.mpr h), if_pos (Nat.le_of_lt h), if_neg (Nat.ne_of_gt h)]
  · rw [if_pos (Nat.le_refl _), if_pos rfl, if_pos (Nat.le_refl _), if_pos rfl]
  · rw [if_pos (Nat.le_of_lt h), if_neg (Nat.ne_of_lt h), if_neg (Nat.not_le.mpr h)]

/-- **The collecting loop takes the source frames in order**, from position `p` in source segment `j` up to position `b`
(exclusive), the last source frame repeated for what lies beyond the source; `X` are the frames of the intervals closed
before. -/
theorem collect_from {r : Rep} {fd : Nat} (g : Grid r fd) (rec : Recipe) (b : Nat) (hb : rec.inEnd = b * fd) :
    ∀ (fuel j p : Nat) (pre : List Itvl) (X : List Nat) (col ns : Nat), j < r.N → r.N ≤ j + fuel → frameBase r fd j ≤ p →
      p ≤ frameBase r fd (j + 1) → p ≤ b → rec.inStart < (r.seg j).stop → framesOf r fd pre = some X →
      ∃ c, collectLoop r rec fd fuel j ⟨pre ++ [⟨j, p - frameBase r fd j, 0, 0⟩], col, ns⟩ = some c ∧
        c.collected = col + (b - p) * fd ∧ framesOf r fd c.itvls = some (X ++ srcFrames (totalFrames r fd) p b) := by
  intro fuel
  induction fuel with
  | zero => intro j p pre X col ns hj hf; exact absurd hf (Nat.not_le.mpr hj)
  | succ fuel ih =>
    intro j p pre X col ns hj hf hp hp' hpb hin hX
    have hF : frameBase r fd (j + 1) ≤ totalFrames r fd := frameBase_mono r fd hj
    -- the frames of the interval open at `p` once it is closed at `q`, after those of `pre`
    have hclose {q fill : Nat} (hpq : p ≤ q) (hq : q ≤ frameBase r fd (j + 1)) :=
      framesOf_snoc hX (itvlFrames_eq g fill hj hp hpq hq)
    rw [collectLoop_round g hb fuel pre col ns hj hin hp]
    rcases Nat.lt_or_ge (frameBase r fd (j + 1)) b with hlt | hle
    · rw [if_neg (Nat.not_le.mpr hlt)]
      -- the frames taken here and further on make up `b − p`
      have hcol : col + (frameBase r fd (j + 1) - p) * fd + (b - frameBase r fd (j + 1)) * fd = col + (b - p) * fd := by
        rw [Nat.add_assoc, ← Nat.add_mul, Nat.add_comm (_ - p), Nat.sub_add_sub_cancel (Nat.le_of_lt hlt) hp']
      by_cases hj1 : j + 1 < r.N
      · -- this segment to its end, then on from the start of the next one
        rw [if_pos (Nat.lt_sub_of_add_lt hj1)]
        have hin' : rec.inStart < (r.seg (j + 1)).stop := by
          rw [g.len _ hj1, g.next j hj1]; exact Nat.lt_of_lt_of_le hin (Nat.le_add_right _ _)
        refine (ih (j + 1) (frameBase r fd (j + 1)) _ _ _ _ hj1 (by omega) (Nat.le_refl _) (Nat.le_add_right _ _)
          (Nat.le_of_lt hlt) hin' (hclose (fill := 0) hp' (Nat.le_refl _))).imp fun c ⟨hrun, hc, hfr⟩ => ⟨hrun, hc.trans hcol, ?_⟩
        rw [hfr, List.replicate_zero, List.append_nil, List.append_assoc, range'_append_srcFrames hp' (Nat.le_of_lt hlt) hF]
      · rw [if_neg (fun h => hj1 (Nat.add_lt_of_lt_sub h)), hcol]
        have hFeq : frameBase r fd (j + 1) = totalFrames r fd := by
          rw [totalFrames, Nat.le_antisymm (Nat.le_of_not_lt hj1) hj]
        refine ⟨_, rfl, rfl, ?_⟩
        rw [hclose hp' (Nat.le_refl _), hFeq, srcFrames_of_ge (hFeq ▸ Nat.le_of_lt hlt)]
    · rw [if_pos hle]
      refine ⟨_, rfl, rfl, ?_⟩
      rw [hclose (fill := 0) hpb hle, List.replicate_zero, List.append_nil, srcFrames_of_le (Nat.le_trans hle hF)]

theorem collectLoop_skip (r : Rep) (rec : Recipe) (fd fuel j : Nat) (c : Collect) (hj : j < r.N)
    (hskip : (r.seg j).stop ≤ rec.inStart) :
    collectLoop r rec fd (fuel + 1) j c = collectLoop r rec fd fuel (j + 1) c := by
  conv => lhs; unfold collectLoop
  rw [if_neg (Nat.not_le.mpr hj), if_pos hskip]

/-- entering a source segment with no interval open yet opens one at the current position -/
theorem collectLoop_open (r : Rep) (rec : Recipe) (fd fuel j col ns : Nat) (hj : j < r.N)
    (hin : rec.inStart < (r.seg j).stop) (hns : ns < (r.seg j).stop) :
    collectLoop r rec fd (fuel + 1) j ⟨[], col, ns⟩ =
      collectLoop r rec fd (fuel + 1) j ⟨[] ++ [⟨j, (ns - (r.seg j).start) / fd, 0, 0⟩], col, ns⟩ := by
  unfold collectLoop
  simp only [Nat.not_le.mpr hj, ↓reduceIte, Nat.not_le.mpr hin, hns, List.isEmpty_nil, and_self,
    List.nil_append, List.isEmpty_cons, Bool.false_eq_true, and_false]

/-- the loop from the first source segment: skip what lies before the start, then collect -/
theorem collect_init {r : Rep} {fd : Nat} (g : Grid r fd) (rec : Recipe) (a b : Nat) (ha : rec.inStart = a * fd)
    (hb : rec.inEnd = b * fd) (hab : a ≤ b) (haF : a < totalFrames r fd) :
    ∀ (fuel i : Nat), i < r.N → r.N ≤ i + fuel → frameBase r fd i ≤ a →
      ∃ c, collectLoop r rec fd fuel i ⟨[], 0, rec.inStart⟩ = some c ∧ c.collected = (b - a) * fd ∧
        framesOf r fd c.itvls = some (srcFrames (totalFrames r fd) a b) := by
  intro fuel
  induction fuel with
  | zero => intro i hi hf; exact absurd hf (Nat.not_le.mpr hi)
  | succ fuel ih =>
    intro i hi hf hlo
    rcases Nat.lt_or_ge a (frameBase r fd (i + 1)) with hlt | hge
    · have hin : rec.inStart < (r.seg i).stop := by rw [ha, g.stop_eq i hi]; exact (Nat.mul_lt_mul_right g.pos).mpr hlt
      obtain ⟨c, hrun, hc, hfr⟩ :=
        collect_from g rec b hb (fuel + 1) i a [] [] 0 rec.inStart hi hf hlo (Nat.le_of_lt hlt) hab hin rfl
      rw [collectLoop_open r rec fd fuel i 0 rec.inStart hi hin hin, ha, g.start_eq i hi, ← Nat.sub_mul,
        Nat.mul_div_cancel _ g.pos, ← ha]
      exact ⟨c, hrun, hc.trans (Nat.zero_add _), hfr⟩
    · have hi1 : i + 1 < r.N :=
        Nat.lt_of_not_le fun hle => Nat.not_le.mpr haF (Nat.le_trans (frameBase_mono r fd hle) hge)
      rw [collectLoop_skip r rec fd fuel i _ hi (by rw [ha, g.stop_eq i hi]; exact (Nat.mul_le_mul_right_iff g.pos).mpr hge)]
      exact ih (i + 1) hi1 (by omega) hge

/-! ## the after-wrap loop -/

/-- one round of the loop, in positions: the part after the wrap ends in source segment `i`, or goes on into the next
(whose start index is written in the shape `afterWrap_from` inducts on, as in `collectLoop_round`) -/
theorem afterWrapLoop_round {r : Rep} {fd : Nat} (g : Grid r fd) (w fuel : Nat) {i : Nat} (pre : List Itvl) (s : Nat)
    (hi : i < r.N) :
    afterWrapLoop r (w * fd) fd (fuel + 1) i (pre ++ [⟨i, s, 0, 0⟩]) =
      if w < frameBase r fd (i + 1) then pre ++ [⟨i, s, w - frameBase r fd i, 0⟩]
      else afterWrapLoop r (w * fd) fd fuel (i + 1) ((pre ++ [⟨i, s, frameBase r fd (i + 1) - frameBase r fd i, 0⟩]) ++
        [⟨i + 1, frameBase r fd (i + 1) - frameBase r fd (i + 1), 0, 0⟩]) := by
  conv => lhs; unfold afterWrapLoop
  simp only [Nat.not_le.mpr hi, if_false, setLastEnd_append]
  rw [g.stop_eq i hi, g.start_eq i hi]
  simp only [← Nat.sub_mul, Nat.mul_div_cancel _ g.pos, Nat.mul_lt_mul_right g.pos, Nat.sub_self]

/-- **The part after the loop wrap takes the frames from the start of the source**, `0 … w − 1`: with `X` the frames of
the intervals closed so far, the loop entered at the start of source segment `i` adds the frames `frameBase i … w − 1`. -/
theorem afterWrap_from {r : Rep} {fd : Nat} (g : Grid r fd) (w : Nat) (hw : w < totalFrames r fd) :
    ∀ (fuel i : Nat) (pre : List Itvl) (X : List Nat), i < r.N → r.N ≤ i + fuel → frameBase r fd i ≤ w →
      framesOf r fd pre = some X →
      framesOf r fd (afterWrapLoop r (w * fd) fd fuel i (pre ++ [⟨i, frameBase r fd i - frameBase r fd i, 0, 0⟩])) =
        some (X ++ List.range' (frameBase r fd i) (w - frameBase r fd i)) := by
  intro fuel
  induction fuel with
  | zero => intro i pre X hi hf; exact absurd hf (Nat.not_le.mpr hi)
  | succ fuel ih =>
    intro i pre X hi hf hlo hX
    have hm := frameBase_mono r fd (Nat.le_succ i)
    rw [afterWrapLoop_round g w fuel pre _ hi]
    rcases Nat.lt_or_ge w (frameBase r fd (i + 1)) with hlt | hge
    · rw [if_pos hlt, framesOf_snoc hX (itvlFrames_eq g 0 hi (Nat.le_refl _) hlo (Nat.le_of_lt hlt)),
        List.replicate_zero, List.append_nil]
    · have hi1 : i + 1 < r.N :=
        Nat.lt_of_not_le fun hle => Nat.not_le.mpr hw (Nat.le_trans (frameBase_mono r fd hle) hge)
      rw [if_neg (Nat.not_lt.mpr hge), ih (i + 1) _ _ hi1 (by omega) hge
          (framesOf_snoc hX (itvlFrames_eq g 0 hi (Nat.le_refl _) hm (Nat.le_refl _))),
        List.replicate_zero, List.append_nil, List.append_assoc, range'_append_sub hm hge]

/-- the part after the wrap as `createAudioSeg` appends it to the intervals collected so far (nothing for `w = 0`) -/
theorem afterWrap_frames {r : Rep} {fd : Nat} (g : Grid r fd) {w : Nat} (hw : w < totalFrames r fd) {its : List Itvl}
    {X : List Nat} (h : framesOf r fd its = some X) :
    framesOf r fd (if w * fd > 0 then afterWrapLoop r (w * fd) fd (r.N + 1) 0 (its ++ [⟨0, 0, 0, 0⟩]) else its) =
      some (X ++ List.range' 0 w) := by
  by_cases hw0 : w * fd > 0
  · rw [if_pos hw0]
    exact afterWrap_from g w hw (r.N + 1) 0 its X g.ne (by omega) (Nat.zero_le _) h
  · rw [if_neg hw0, (Nat.mul_eq_zero.mp (Nat.eq_zero_of_not_pos hw0)).resolve_right (Nat.ne_of_gt g.pos),
      List.range'_zero, List.append_nil]
    exact h

end Core
