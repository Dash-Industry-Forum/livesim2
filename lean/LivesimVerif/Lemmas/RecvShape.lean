import LivesimVerif.Model.Receiver
import LivesimVerif.Lemmas.List
/-!
# The receiver's bookkeeping never indexes out of range — for the whole operation set

The Go slices of `seqCounters` and `segDataBuffer` are arrays with a separate fill counter; every operation is a `copy`
inside the array, a store and a new fill counter.  Here each operation is described once by what it does to the *live
prefix* (`Ctrs.live`, `Buf.live`) as list surgery — drop a prefix, append, splice in at a position, erase — and everything
else is proved about those lists.  The *shape* invariant `GShape` (sizes agree, fill counters within the arrays, track names
distinct, buffers strictly increasing) is all that `segDataBuffer.add` and `seqCounters.add` need in order not to index out of
range, and every operation of `segmentTimelineGenerator` keeps it: `addSegmentData`, `dropSeqNr`, `start` with and without the
shift.  `Lemmas/RecvInv.lean` builds the counting invariant on top.
-/
namespace Recv
open List

/-! ## Go slices: `copy` inside one array, a store, then the live prefix

The lemmas about `copyWithin l d s e` (destination `d`, source `l[s:e]`) take the block length `n` with `s + n = e`, so that no
truncated subtraction appears; `m` is the length of the prefix looked at.  Call sites name these arguments. -/

theorem take_set_succ {α} (l : List α) (i : Nat) (x : α) (h : i < l.length) :
    (l.set i x).take (i + 1) = l.take i ++ [x] := by
  rw [take_succ_eq_append_getElem (by rwa [length_set]), take_set_of_le (Nat.le_refl i), getElem_set_self]

theorem take_set_ge {α} (l : List α) (i k : Nat) (x : α) (h : k ≤ i) : (l.set i x).take k = l.take k :=
  take_set_of_le h

theorem take_set_add {α} (l : List α) (j k : Nat) (x : α) (h : j + 1 + k ≤ l.length) :
    (l.set j x).take (j + 1 + k) = l.take j ++ x :: (l.drop (j + 1)).take k := by
  rw [take_add, take_set_succ l j x (by omega), drop_set_of_lt (Nat.lt_succ_self j), append_assoc, singleton_append]

theorem copyWithin_length {α} (l : List α) (d s e : Nat) : (copyWithin l d s e).length = l.length := by
  unfold copyWithin
  simp only []
  generalize (l.drop s).take (e - s) = src
  have h1 : min src.length (l.length - d) ≤ src.length := Nat.min_le_left _ _
  have h2 : min src.length (l.length - d) ≤ l.length - d := Nat.min_le_right _ _
  generalize min src.length (l.length - d) = n at h1 h2 ⊢
  rw [length_append, length_append, length_take, length_take, length_drop, Nat.min_eq_left h1, Nat.sub_add_eq,
    Nat.add_assoc, Nat.add_sub_cancel' h2, Nat.add_comm, Nat.min_comm, Nat.sub_add_min_cancel]

section
variable {α : Type _} (l : List α) {d s n e m : Nat} (h : s + n = e) (he : e ≤ l.length) (hd : d + n ≤ l.length)
include h he hd

/-- Go's `copy(l[d:], l[s:e])` as list surgery: the block `l[s:e]`, of length `n`, replaces what was at `d` -/
theorem copyWithin_eq : copyWithin l d s e = l.take d ++ (l.drop s).take n ++ l.drop (d + n) := by
  subst h
  have hn : min ((l.drop s).take n).length (l.length - d) = n := by
    rw [length_take, length_drop, Nat.min_eq_left (Nat.le_sub_of_add_le' he), Nat.min_eq_left (Nat.le_sub_of_add_le' hd)]
  unfold copyWithin
  simp only [Nat.add_sub_cancel_left, hn, take_take, Nat.min_self]

theorem take_copyWithin (hm : m ≤ d) : (copyWithin l d s e).take m = l.take m := by
  rw [copyWithin_eq l h he hd, append_assoc, take_append_of_le_length (by rw [length_take_of_le (by omega)]; exact hm),
    take_take, Nat.min_eq_left hm]

theorem take_drop_copyWithin (hm : m ≤ n) : ((copyWithin l d s e).drop d).take m = (l.drop s).take m := by
  rw [copyWithin_eq l h he hd, append_assoc, drop_left' (length_take_of_le (by omega)),
    take_append_of_le_length (by rw [length_take_of_le (by rw [length_drop]; omega)]; exact hm), take_take, Nat.min_eq_left hm]

theorem drop_copyWithin (hm : d + n ≤ m) : (copyWithin l d s e).drop m = l.drop m := by
  obtain ⟨r, rfl⟩ := Nat.exists_eq_add_of_le hm
  rw [copyWithin_eq l h he hd, ← drop_drop,
    drop_left' (by rw [length_append, length_take_of_le (by omega), length_take_of_le (by rw [length_drop]; omega)]), drop_drop]

end

section
variable {α : Type _} (l : List α)

/-- `copy(l, l[k:e])`, the shift to the front, seen on the live prefix `l[:nr]`, of which `m` remain -/
theorem take_shift {k m nr e : Nat} (h : k + m = nr) (hnr : nr ≤ e) (he : e ≤ l.length) :
    (copyWithin l 0 k e).take m = (l.take nr).drop k := by
  subst h
  obtain ⟨r, rfl⟩ := Nat.exists_eq_add_of_le hnr
  rw [drop_take, Nat.add_sub_cancel_left]
  exact take_drop_copyWithin l (d := 0) (s := k) (n := m + r) (m := m) (Nat.add_assoc k m r).symm he (by omega) (Nat.le_add_right m r)

/-- `copy(l, l[k:]); l[nr-k] = x`: the live prefix loses `k` at the front and gains `x` at the end -/
theorem take_shift_push (k nr : Nat) (x : α) (hk : k ≤ nr) (hnr : nr ≤ l.length) (h : nr - k < l.length) :
    ((copyWithin l 0 k l.length).set (nr - k) x).take (nr - k + 1) = (l.take nr).drop k ++ [x] := by
  rw [take_set_succ _ _ _ (by rw [copyWithin_length]; exact h),
    take_shift l (k := k) (m := nr - k) (Nat.add_sub_cancel' hk) hnr (Nat.le_refl _)]

theorem copyWithin_zero_self : copyWithin l 0 0 l.length = l := by
  rw [copyWithin_eq l (d := 0) (s := 0) (n := l.length) (Nat.zero_add _) (Nat.le_refl _) (Nat.le_of_eq (Nat.zero_add _)), Nat.zero_add, take_zero,
    drop_zero, take_length, drop_length, nil_append, append_nil]

/-- insert: `copy(l[i+1:], l[i:nr]); l[i] = x`, seen on the live prefix `l[:nr]` -/
theorem take_insert (i nr : Nat) (x : α) (hi : i ≤ nr) (hnr : nr < l.length) :
    ((copyWithin l (i + 1) i nr).set i x).take (nr + 1) = (l.take nr).take i ++ x :: (l.take nr).drop i := by
  obtain ⟨n, rfl⟩ := Nat.exists_eq_add_of_le hi
  have hs : i + n ≤ l.length := Nat.le_of_lt hnr
  have hd : i + 1 + n ≤ l.length := by omega
  rw [Nat.add_right_comm, take_set_add _ i n x (by rw [copyWithin_length]; exact hd),
    take_copyWithin l (d := i + 1) (s := i) (n := n) (m := i) rfl hs hd (Nat.le_succ i),
    take_drop_copyWithin l (d := i + 1) (s := i) (n := n) (m := n) rfl hs hd (Nat.le_refl n),
    take_take, Nat.min_eq_left (Nat.le_add_right i n), drop_take, Nat.add_sub_cancel_left]

/-- insert into a full window: `copy(l[:i-1], l[1:i]); l[i-1] = x` -/
theorem take_evict_insert (i nr : Nat) (x : α) (h1 : 1 ≤ i) (hi : i ≤ nr) (hnr : nr ≤ l.length) :
    ((copyWithin l 0 1 i).set (i - 1) x).take nr = ((l.take nr).take i).drop 1 ++ x :: (l.take nr).drop i := by
  obtain ⟨j, rfl⟩ := Nat.exists_eq_add_of_le' h1
  obtain ⟨n, rfl⟩ := Nat.exists_eq_add_of_le hi
  have hs : j + 1 ≤ l.length := by omega
  rw [take_take, Nat.min_eq_left hi, drop_take (i := j + 1), Nat.add_sub_cancel_left, Nat.add_sub_cancel,
    take_set_add _ j n x (by rw [copyWithin_length]; exact hnr),
    take_shift l (k := 1) (m := j) (Nat.add_comm 1 j) (Nat.le_refl _) hs,
    drop_copyWithin l (d := 0) (s := 1) (n := j) (m := j + 1) (Nat.add_comm 1 j) hs (by omega) (by omega)]

/-- erase: `copy(l[i:], l[i+1:])`, seen on the live prefix `l[:nr]` -/
theorem take_erase (i nr : Nat) (hi : i < nr) (hnr : nr ≤ l.length) :
    (copyWithin l i (i + 1) l.length).take (nr - 1) = (l.take nr).eraseIdx i := by
  obtain ⟨m, rfl⟩ := Nat.exists_eq_add_of_lt hi
  obtain ⟨r, hr⟩ := Nat.exists_eq_add_of_le hnr
  have hs : i + 1 + (m + r) = l.length := by omega
  rw [Nat.add_sub_cancel, take_add,
    take_copyWithin l (d := i) (s := i + 1) (n := m + r) (m := i) hs (Nat.le_refl _) (by omega) (Nat.le_refl _),
    take_drop_copyWithin l (d := i) (s := i + 1) (n := m + r) (m := m) hs (Nat.le_refl _) (by omega) (Nat.le_add_right m r),
    eraseIdx_eq_take_drop_succ, take_take, Nat.min_eq_left (by omega), drop_take, Nat.add_right_comm i m 1, Nat.add_sub_cancel_left]

end

/-- growing, `append(l[:n], make([]T, n-len(l))...)`, keeps a prefix that fits both -/
theorem take_grow {α} (l r : List α) (n nr : Nat) (h1 : nr ≤ n) (h2 : nr ≤ l.length) : (l.take n ++ r).take nr = l.take nr := by
  rw [take_append_of_le_length (by rw [length_take]; exact Nat.le_min.mpr ⟨h1, h2⟩), take_take, Nat.min_eq_left h1]

theorem length_grow {α} (l : List α) (n : Nat) (x : α) : (l.take n ++ replicate (n - l.length) x).length = n := by
  rw [length_append, length_take, length_replicate, Nat.add_comm, Nat.sub_add_min_cancel]

theorem getLast?_take_getD {α} (l : List α) (nr : Nat) (d : α) (h0 : nr ≠ 0) (h : nr ≤ l.length) :
    (l.take nr).getLast? = some (l.getD (nr - 1) d) := by
  have hlt : nr - 1 < nr := Nat.sub_lt (Nat.pos_of_ne_zero h0) Nat.one_pos
  rw [getLast?_eq_getElem?, length_take, Nat.min_eq_left h, getElem?_take, if_pos hlt, getD_eq_getElem?_getD,
    getElem?_eq_getElem (Nat.lt_of_lt_of_le hlt h)]; rfl

theorem map_set_same {α β} (f : α → β) (L : List α) (i : Nat) (x y : α) (hy : L[i]? = some y) (h : f x = f y) :
    (L.set i x).map f = L.map f := by
  obtain ⟨hi, rfl⟩ := List.getElem?_eq_some_iff.mp hy
  rw [map_set, h, ← getElem_map f (h := by rwa [length_map]), set_getElem_self]

/-! ## sorted lists (by a number `f`) -/

theorem sorted_le_getLast {α} (f : α → Nat) (l : List α) (y : α) (hs : l.Pairwise (fun a b => f a < f b))
    (hy : l.getLast? = some y) : ∀ a ∈ l, f a ≤ f y := by
  obtain ⟨ys, rfl⟩ := getLast?_eq_some_iff.mp hy
  intro a ha
  rcases mem_append.mp ha with h | h
  · exact Nat.le_of_lt ((pairwise_append.mp hs).2.2 a h y (mem_singleton_self y))
  · rw [mem_singleton.mp h]; exact Nat.le_refl _

theorem sorted_le_last {α} (f : α → Nat) (l : List α) (nr : Nat) (d : α) (h0 : nr ≠ 0) (h : nr ≤ l.length)
    (hs : (l.take nr).Pairwise (fun a b => f a < f b)) : ∀ a ∈ l.take nr, f a ≤ f (l.getD (nr - 1) d) :=
  sorted_le_getLast f _ _ hs (getLast?_take_getD l nr d h0 h)

theorem sorted_drop_snoc {α} (f : α → Nat) (L : List α) (k : Nat) (x : α) (hs : L.Pairwise (fun a b => f a < f b))
    (hx : ∀ a ∈ L, f a < f x) : (L.drop k ++ [x]).Pairwise (fun a b => f a < f b) := by
  rw [pairwise_append]
  exact ⟨hs.drop, pairwise_singleton _ _, fun a ha b hb => mem_singleton.mp hb ▸ hx a (mem_of_mem_drop ha)⟩

/-- an element that fits between its two neighbours at `i` fits into the sorted list there, whatever is dropped before it -/
theorem sorted_splice {α} (f : α → Nat) (L : List α) (i k : Nat) (x : α) (hs : L.Pairwise (fun a b => f a < f b))
    (hi : i ≤ L.length) (hlo : ∀ y, 0 < i → L[i - 1]? = some y → f y < f x) (hhi : ∀ y, L[i]? = some y → f x < f y) :
    ((L.take i).drop k ++ x :: L.drop i).Pairwise (fun a b => f a < f b) := by
  rw [← take_append_drop i L, pairwise_append] at hs
  obtain ⟨h1, h2, h12⟩ := hs
  have hlo' : ∀ a ∈ L.take i, f a < f x := by
    intro a ha
    cases hl : (L.take i).getLast? with
    | none => rw [getLast?_eq_none_iff.mp hl] at ha; cases ha
    | some y =>
      refine Nat.lt_of_le_of_lt (sorted_le_getLast f _ y h1 hl a ha) ?_
      rw [getLast?_eq_getElem?, getElem?_take, length_take, Nat.min_eq_left hi] at hl
      split at hl
      · exact hlo y (by omega) hl
      · cases hl
  have hhi' : ∀ b ∈ L.drop i, f x < f b := by
    intro b hb
    cases hd : L.drop i with
    | nil => rw [hd] at hb; cases hb
    | cons y t =>
      have hy := hhi y (by rw [← head?_drop, hd]; rfl)
      rw [hd] at hb h2
      rcases mem_cons.mp hb with rfl | hb
      · exact hy
      · exact Nat.lt_trans hy (rel_of_pairwise_cons h2 hb)
  rw [pairwise_append, pairwise_cons]
  refine ⟨h1.drop, ⟨hhi', h2⟩, ?_⟩
  intro a ha b hb
  have ha' := mem_of_mem_drop ha
  rcases mem_cons.mp hb with rfl | hb
  · exact hlo' a ha'
  · exact h12 a ha' b hb

/-- in a sorted list the elements satisfying a downward closed `p` form a prefix -/
theorem sorted_drop_filter {α} (f : α → Nat) (p : α → Bool) (hp : ∀ a b, f a < f b → p b = true → p a = true)
    (l : List α) (hs : l.Pairwise (fun a b => f a < f b)) :
    l.drop (l.filter p).length = l.filter (fun x => !p x) := by
  induction l with
  | nil => rfl
  | cons a t ih =>
    obtain ⟨ha, ht⟩ := pairwise_cons.mp hs
    cases hpa : p a with
    | true => simp only [filter_cons, hpa, if_true, length_cons, drop_succ_cons, Bool.not_true, Bool.false_eq_true, if_false]; exact ih ht
    | false =>
      have hnil : t.filter p = [] := filter_eq_nil_iff.mpr (fun b hb hpb => by
        rw [hp a b (ha b hb) hpb] at hpa; cases hpa)
      have hall : t.filter (fun x => !p x) = t := filter_eq_self.mpr (fun b hb => by
        have := filter_eq_nil_iff.mp hnil b hb; simpa using this)
      simp only [filter_cons, hpa, Bool.false_eq_true, if_false, hnil, length_nil, drop_zero, Bool.not_false, if_true, hall]

/-- pigeonhole: a strictly increasing list with all numbers in `[a, b)` has at most `b - a` elements -/
theorem sorted_length_le {α} (f : α → Nat) (l : List α) (a b : Nat) (hs : l.Pairwise (fun x y => f x < f y))
    (hr : ∀ x ∈ l, a ≤ f x ∧ f x < b) : l.length ≤ b - a := by
  induction l generalizing a with
  | nil => simp
  | cons h t ih =>
    have hh := hr h (by simp)
    have hs' := List.pairwise_cons.mp hs
    have := ih (f h + 1) hs'.2 (fun x hx => ⟨hs'.1 x hx, (hr x (by simp [hx])).2⟩)
    simp only [List.length_cons]
    omega

/-- in a sorted list bounded by `top`, an element within `length - d` of `top` is not among the first `d` (pigeonhole) -/
theorem sorted_drop_keep {α} (f : α → Nat) (l : List α) (d k top : Nat) (hs : l.Pairwise (fun a b => f a < f b))
    (htop : ∀ z ∈ l, f z ≤ top) (hlen : top < k + (l.length - d)) : ∀ z ∈ l, f z = k → z ∈ l.drop d := by
  intro z hz hzk
  rw [← take_append_drop d l, mem_append] at hz
  rcases hz with hz | hz
  · exfalso
    have := sorted_length_le f (l.drop d) (k + 1) (top + 1) hs.drop (fun x hx =>
      ⟨hzk ▸ hs.rel_of_mem_take_of_mem_drop hz hx, Nat.lt_succ_of_le (htop x (mem_of_mem_drop hx))⟩)
    rw [length_drop] at this
    have := htop z (mem_of_mem_take hz)
    omega
  · exact hz

/-- a full window below a new number `n`: `w` strictly increasing numbers, all below `n`.  By pigeonhole `n` is at least `w`
and some number is at most `n - w`; those form a prefix, and whatever lies within a window below `n` comes after it. -/
theorem sorted_window {α} (f : α → Nat) (L : List α) (n w : Nat) (hs : L.Pairwise (fun a b => f a < f b))
    (hb : ∀ x ∈ L, f x < n) (hL : L.length = w) (hw0 : 0 < w) :
    w ≤ n ∧ (L.filter (fun x => decide (f x ≤ n - w))).length ≠ 0 ∧
      ∀ x ∈ L, n < f x + w → x ∈ L.drop (L.filter (fun x => decide (f x ≤ n - w))).length := by
  have hcount : ∀ a, (∀ x ∈ L, a ≤ f x) → w ≤ n - a := fun a ha =>
    hL ▸ sorted_length_le f L a n hs (fun x hx => ⟨ha x hx, hb x hx⟩)
  have hwn : w ≤ n := hcount 0 (fun _ _ => Nat.zero_le _)
  refine ⟨hwn, fun hz => ?_, fun x hx hwin => ?_⟩
  · rw [length_eq_zero_iff, filter_eq_nil_iff] at hz
    have := hcount (n - w + 1) (fun x hx => by have := hz x hx; simp only [decide_eq_true_eq] at this; omega)
    omega
  · rw [sorted_drop_filter f _ (fun a c hac hc => by simp only [decide_eq_true_eq] at hc ⊢; omega) _ hs, mem_filter]
    exact ⟨hx, by simp only [Bool.not_eq_eq_eq_not, Bool.not_true, decide_eq_false_iff_not]; omega⟩

/-! ## segDataBuffer -/

def SortedI (l : List Item) : Prop := l.Pairwise (fun a b => a.seqNr < b.seqNr)

/-- a well-formed `segDataBuffer` for window `w`: array and `size` are `w`, the fill counter is within, the live items are
strictly increasing (`segDataBuffer.add` needs that to find something to discard in a full window) -/
structure BW (b : Buf) (w : Nat) : Prop where
  size : b.size = w
  len : b.items.length = w
  nr : b.nr ≤ w
  sorted : SortedI b.live

theorem BW.nr_le {b : Buf} {w : Nat} (hb : BW b w) : b.nr ≤ b.items.length := hb.len ▸ hb.nr

theorem BW.live_length {b : Buf} {w : Nat} (hb : BW b w) : b.live.length = b.nr := by
  rw [Buf.live, length_take]; exact Nat.min_eq_left hb.nr_le

/-- what a successful `segDataBuffer.add` does to the live items -/
structure BufAdded (b b' : Buf) (w : Nat) (it : Item) : Prop where
  bw : BW b' w
  live : ∃ d, b'.live = b.live.drop d ++ [it] ∧ ∀ x ∈ b.live, it.seqNr < x.seqNr + w → x ∈ b.live.drop d
  below : ∀ x ∈ b.live, x.seqNr < it.seqNr

theorem BufAdded.of_live {b b' : Buf} {w : Nat} {it : Item} (hb : BW b w) (d : Nat) (hsize : b'.size = w)
    (hlen : b'.items.length = w) (hnr : b'.nr ≤ w) (hl : b'.live = b.live.drop d ++ [it])
    (hbelow : ∀ x ∈ b.live, x.seqNr < it.seqNr) (hkeep : ∀ x ∈ b.live, it.seqNr < x.seqNr + w → x ∈ b.live.drop d) :
    BufAdded b b' w it :=
  ⟨⟨hsize, hlen, hnr, hl ▸ sorted_drop_snoc Item.seqNr _ d it hb.sorted hbelow⟩, ⟨d, hl, hkeep⟩, hbelow⟩

theorem sub_pred (n d : Nat) (h0 : d ≠ 0) (h : d ≤ n) : n - (d - 1) = n - d + 1 := by
  obtain ⟨k, rfl⟩ := Nat.exists_eq_succ_of_ne_zero h0
  exact (Nat.succ_sub_succ n k).symm.trans (Nat.succ_sub h)

/-- `uint32` subtraction without wrap-around -/
theorem U32_sub (n w : Nat) (hn : n < U32) (hw : w < U32) (h : w ≤ n) : (n + U32 - w % U32) % U32 = n - w := by
  rw [Nat.mod_eq_of_lt hw, Nat.sub_add_comm h, Nat.add_mod_right, Nat.mod_eq_of_lt (Nat.lt_of_le_of_lt (Nat.sub_le n w) hn)]

/-- **`segDataBuffer.add` never indexes out of range** on a well-formed buffer, and a successful add appends the item,
discarding only numbers at least a window older than the new one. -/
theorem buf_add_spec (b : Buf) (w : Nat) (it : Item) (hb : BW b w) (hw0 : 0 < w) (hw : w < U32) (hn : it.seqNr < U32) :
    match b.add it with
    | .panic => False
    | .notIncreasing => True
    | .ok b' => BufAdded b b' w it := by
  have ⟨hsize, hlen, hnr, hsorted⟩ := hb
  have hnl := hb.nr_le
  unfold Buf.add
  by_cases h0 : b.nr = 0
  · have hnil : b.live = [] := by rw [Buf.live, h0]; rfl
    rw [if_pos h0, if_pos (hlen ▸ hw0)]
    refine BufAdded.of_live hb 0 hsize (by rw [length_set]; exact hlen) hw0 ?_ (by rw [hnil]; exact fun _ h => nomatch h)
      (by rw [hnil]; exact fun _ h => nomatch h)
    rw [hnil]; exact take_set_succ b.items 0 it (hlen ▸ hw0)
  · rw [if_neg h0, if_neg (Nat.not_lt.mpr hnl)]
    simp only []
    by_cases hinc : it.seqNr ≤ (b.items.getD (b.nr - 1) default).seqNr
    · rw [if_pos hinc]; trivial
    · rw [if_neg hinc]
      have hbelow : ∀ x ∈ b.live, x.seqNr < it.seqNr := fun x hx =>
        Nat.lt_of_le_of_lt (sorted_le_last Item.seqNr b.items b.nr default h0 hnl hsorted x hx) (Nat.not_le.mp hinc)
      by_cases hfull : b.nr < b.size
      · have hlt : b.nr < b.items.length := hlen ▸ hsize ▸ hfull
        rw [if_pos hfull, if_pos hlt]
        exact BufAdded.of_live hb 0 hsize (by rw [length_set]; exact hlen) (hsize ▸ hfull) (take_set_succ b.items b.nr it hlt)
          hbelow (fun x hx _ => hx)
      · -- the window is full: the numbers at most `it.seqNr - w` go, and there are some
        have hnw : b.nr = w := Nat.le_antisymm hnr (hsize ▸ Nat.not_lt.mp hfull)
        obtain ⟨hwn, hd0, hkeep⟩ := sorted_window Item.seqNr b.live it.seqNr w hsorted hbelow (hb.live_length.trans hnw) hw0
        have hall : b.items.take b.size = b.live := by rw [Buf.live, hsize, hnw]
        have hsl : b.size ≤ b.items.length := Nat.le_of_eq (hsize.trans hlen.symm)
        rw [if_neg hfull, if_neg (Nat.not_lt.mpr hsl), hall, hsize, U32_sub _ _ hn hw hwn]
        have hdle : (b.live.filter (fun x => decide (x.seqNr ≤ it.seqNr - w))).length ≤ b.nr :=
          hb.live_length ▸ length_filter_le _ _
        generalize (b.live.filter (fun x => decide (x.seqNr ≤ it.seqNr - w))).length = disc at hd0 hkeep hdle ⊢
        have hlt : b.nr - disc < b.nr := Nat.sub_lt (Nat.pos_of_ne_zero h0) (Nat.pos_of_ne_zero hd0)
        -- the new fill counter `nr - (disc - 1)` is `nr - disc + 1`: not zero, and within the array
        have hnr1 : ¬(b.nr - disc + 1 = 0 ∨ b.nr - disc + 1 > b.items.length) :=
          fun h => h.elim (Nat.succ_ne_zero _) (Nat.not_lt.mpr (Nat.le_trans hlt hnl))
        rw [if_neg hd0, sub_pred _ _ hd0 hdle, Nat.add_sub_cancel, copyWithin_length, if_neg hnr1]
        exact BufAdded.of_live hb disc rfl (by rw [length_set, copyWithin_length]; exact hlen) (Nat.le_trans hlt hnr)
          (take_shift_push b.items disc b.nr it hdle hnl (Nat.lt_of_lt_of_le hlt hnl)) hbelow hkeep

/-- `segDataBuffer.resize`: keeps the newest `n` items -/
theorem buf_resize_spec (b : Buf) (w n : Nat) (hb : BW b w) :
    ∃ b', b.resize n = some b' ∧ BW b' n ∧ b'.live = b.live.drop (b.nr - n) := by
  have ⟨hsize, hlen, hnr, hsorted⟩ := hb
  have hnl := hb.nr_le
  have hfin : ∀ b' : Buf, b'.size = n → b'.items.length = n → b'.nr ≤ n → b'.live = b.live.drop (b.nr - n) →
      ∃ b'', some b' = some b'' ∧ BW b'' n ∧ b''.live = b.live.drop (b.nr - n) := fun b' h1 h2 h3 h4 =>
    ⟨b', rfl, ⟨h1, h2, h3, h4 ▸ hsorted.drop⟩, h4⟩
  fun_cases Buf.resize b n with
  | case1 h1 =>
    have hn : b.nr ≤ n := h1 ▸ hsize ▸ hnr
    exact hfin b h1.symm (hlen.trans (hsize.symm.trans h1.symm)) hn (by rw [Nat.sub_eq_zero_of_le hn]; rfl)
  | case2 _ _ h3 => exact absurd hnl (Nat.not_le.mpr h3)
  | case3 _ h2 =>
    refine hfin _ rfl ?_ (Nat.le_refl _) ?_
    · rw [length_take, copyWithin_length]; exact Nat.min_eq_left (Nat.le_trans (Nat.le_of_lt h2) hnl)
    · show ((copyWithin b.items 0 (b.nr - n) b.items.length).take n).take n = _
      rw [take_take, Nat.min_self, take_shift b.items (k := b.nr - n) (m := n) (Nat.sub_add_cancel (Nat.le_of_lt h2)) hnl (Nat.le_refl _)]
      rfl
  | case4 _ h2 =>
    have hn : b.nr ≤ n := Nat.not_lt.mp h2
    refine hfin _ rfl (length_grow _ _ _) hn ?_
    rw [Nat.sub_eq_zero_of_le hn]
    exact take_grow _ _ _ _ hn hnl

/-- **`segDataBuffer.dropSeqNr`** keeps a well-formed buffer well-formed -/
theorem buf_drop_spec (b : Buf) (w n : Nat) (hb : BW b w) : ∃ b', b.dropSeqNr n = some b' ∧ BW b' w := by
  have ⟨hsize, hlen, hnr, hsorted⟩ := hb
  have hnl := hb.nr_le
  fun_cases Buf.dropSeqNr b n with
  | case1 h => exact absurd hnl (Nat.not_le.mpr h)
  | case2 => exact ⟨b, rfl, hb⟩
  | case3 _ i hf =>
    have hi : i < b.nr := hb.live_length ▸ (findIdx?_eq_some_iff_getElem.mp hf).1
    refine ⟨_, rfl, ⟨hsize, ?_, Nat.le_trans (Nat.sub_le _ _) hnr, ?_⟩⟩
    · show (copyWithin b.items i (i + 1) b.items.length).length = w
      rw [copyWithin_length]; exact hlen
    · show SortedI ((copyWithin b.items i (i + 1) b.items.length).take (b.nr - 1))
      rw [take_erase b.items i b.nr hi hnl]
      exact hsorted.eraseIdx i

/-- **`segDataBuffer.removeUnshifted`** keeps a well-formed buffer well-formed -/
theorem buf_removeUnshifted_spec (b : Buf) (w : Nat) (hb : BW b w) :
    ∃ b' un, b.removeUnshifted = some (b', un) ∧ BW b' w := by
  have ⟨hsize, hlen, hnr, hsorted⟩ := hb
  have hnl := hb.nr_le
  fun_cases Buf.removeUnshifted b with
  | case1 h => exact absurd hnl (Nat.not_le.mpr h)
  | case2 => exact ⟨b, [], rfl, hb⟩
  | case3 _ un =>
    have hk : un.length ≤ b.nr := hb.live_length ▸ (takeWhile_sublist _).length_le
    generalize un.length = k at hk ⊢
    refine ⟨_, _, rfl, ⟨hsize, ?_, Nat.le_trans (Nat.sub_le _ _) hnr, ?_⟩⟩
    · show (copyWithin b.items 0 k b.items.length).length = w
      rw [copyWithin_length]; exact hlen
    · show SortedI ((copyWithin b.items 0 k b.items.length).take (b.nr - k))
      rw [take_shift b.items (k := k) (m := b.nr - k) (Nat.add_sub_cancel' hk) hnl (Nat.le_refl _)]
      exact hsorted.drop

/-! ## seqCounters -/

/-- the newest counted number, `counters[_nrCounters-1].seqNr` (the `let mx` of `Ctrs.add`).  With `nr = 0` it reads slot 0,
which means nothing: statements about it carry `c.nr ≠ 0`. -/
def mxOf (c : Ctrs) : Nat := (c.arr.getD (c.nr - 1) default).seqNr

/-- well-formed `seqCounters` for window `w`; no sortedness: `seqCounters.add` stays within the array without it -/
structure CW (c : Ctrs) (w : Nat) : Prop where
  weq : c.w = w
  len : c.arr.length = w
  nr : c.nr ≤ w

theorem CW.nr_le {c : Ctrs} {w : Nat} (hc : CW c w) : c.nr ≤ c.arr.length := hc.len ▸ hc.nr

theorem CW.live_length {c : Ctrs} {w : Nat} (hc : CW c w) : c.live.length = c.nr := by
  rw [Ctrs.live, length_take]; exact Nat.min_eq_left hc.nr_le

theorem live_nonempty_nr (c : Ctrs) (x : Ctr) (h : x ∈ c.live) : c.nr ≠ 0 := by
  intro h0; simp [Ctrs.live, h0] at h

def lastNr (L : List Ctr) : Nat := (L.getLast?.getD default).seqNr

theorem mxOf_eq_lastNr {c : Ctrs} {w : Nat} (hc : CW c w) (h0 : c.nr ≠ 0) : mxOf c = lastNr c.live := by
  rw [lastNr, Ctrs.live, getLast?_take_getD c.arr c.nr default h0 hc.nr_le]; rfl

theorem mxOf_of_live {c : Ctrs} {w : Nat} (hc : CW c w) {L : List Ctr} (h : c.live = L) (hL : L ≠ []) :
    c.nr ≠ 0 ∧ mxOf c = lastNr L := by
  have h0 : c.nr ≠ 0 := by
    rw [← hc.live_length, h]; exact fun hz => hL (length_eq_zero_iff.mp hz)
  exact ⟨h0, by rw [mxOf_eq_lastNr hc h0, h]⟩

theorem lastNr_concat (L : List Ctr) (x : Ctr) : lastNr (L ++ [x]) = x.seqNr := by
  rw [lastNr, getLast?_concat]; rfl

theorem lastNr_append_drop (A L : List Ctr) (i : Nat) (x : Ctr) (hi : i < L.length) : lastNr (A ++ x :: L.drop i) = lastNr L := by
  have hne : L.drop i ≠ [] := fun h => by rw [drop_eq_nil_iff] at h; omega
  unfold lastNr
  rw [getLast?_append, getLast?_cons_of_ne_nil hne, getLast?_drop, if_neg (Nat.not_le.mpr hi)]
  cases h : L.getLast? with
  | none => rw [getLast?_eq_none_iff.mp h] at hi; cases hi
  | some z => rfl

theorem lastNr_set (L : List Ctr) (i : Nat) (x y : Ctr) (hy : L[i]? = some y) (h : x.seqNr = y.seqNr) :
    lastNr (L.set i x) = lastNr L := by
  unfold lastNr
  rw [getLast?_eq_getElem?, getLast?_eq_getElem?, length_set, getElem?_set]
  split
  · rename_i hi; rw [← hi, hy, if_pos (List.getElem?_eq_some_iff.mp hy).1]; exact h
  · rfl

theorem lastNr_drop (L : List Ctr) (d : Nat) (h : d < L.length) : lastNr (L.drop d) = lastNr L := by
  rw [lastNr, getLast?_drop, if_neg (Nat.not_le.mpr h)]; rfl

theorem findIdx_eq (l : List Ctr) (n : Nat) : findIdx l n = l.findIdx? (·.seqNr = n) := by
  induction l with
  | nil => rfl
  | cons c t ih => rw [findIdx, findIdx?_cons, ih]; simp only [decide_eq_true_eq]

theorem findIdx_some (l : List Ctr) (n i : Nat) (h : findIdx l n = some i) : ∃ hi : i < l.length, l[i].seqNr = n := by
  rw [findIdx_eq, findIdx?_eq_some_iff_getElem] at h
  exact ⟨h.1, of_decide_eq_true h.2.1⟩

theorem findIdx_none (l : List Ctr) (n : Nat) (h : findIdx l n = none) : ∀ x ∈ l, x.seqNr ≠ n := by
  rw [findIdx_eq, findIdx?_eq_none_iff] at h
  exact fun x hx => of_decide_eq_false (h x hx)

/-- the insertion position is in `[1, k]`, inside the list, above its left neighbour, and no later candidate is above its own -/
theorem insPos_spec (l : List Ctr) (n k i : Nat) (h : insPos l n k = some i) :
    1 ≤ i ∧ i ≤ k ∧ i < l.length ∧ (l.getD (i - 1) default).seqNr < n ∧
    ∀ j, i ≤ j → j < k → j + 1 < l.length → n ≤ (l.getD j default).seqNr := by
  fun_induction insPos l n k with
  | case1 => cases h
  | case2 k hc =>
    obtain rfl := Option.some.inj h
    exact ⟨Nat.succ_pos k, Nat.le_refl _, hc.1, hc.2, fun j h1 h2 _ => absurd h2 (Nat.not_lt.mpr h1)⟩
  | case3 k hc ih =>
    obtain ⟨h1, h2, h3, h4, h5⟩ := ih h
    refine ⟨h1, Nat.le_succ_of_le h2, h3, h4, fun j hj1 hj2 hj3 => ?_⟩
    by_cases he : j = k
    · subst he; exact Nat.not_lt.mp (fun hh => hc ⟨hj3, hh⟩)
    · exact h5 j hj1 (Nat.lt_of_le_of_ne (Nat.le_of_lt_succ hj2) he) hj3

/-- what a `seqCounters.add` does to the live counters -/
structure CtrAdded (c c' : Ctrs) (w n : Nat) : Prop where
  cw : CW c' w
  nrpos : c'.nr ≠ 0
  mx_ge : n ≤ mxOf c'
  mx_mono : c.nr ≠ 0 → mxOf c ≤ mxOf c'
  mem : ∀ x ∈ c'.live, x ∈ c.live ∨ (x.seqNr = n ∧ x.count = 1) ∨
          (∃ y ∈ c.live, y.seqNr = n ∧ x.seqNr = n ∧ x.count = y.count + 1)

/-- live counters strictly increasing, said of the array slots, so that `GSorted` in `c17_lifecycle` reads without the list
view; the proofs use the list form, `csorted_iff` -/
def CSorted (c : Ctrs) : Prop :=
  ∀ j1 j2 x1 x2, j1 < j2 → j2 < c.nr → c.arr[j1]? = some x1 → c.arr[j2]? = some x2 → x1.seqNr < x2.seqNr

theorem csorted_iff (c : Ctrs) : CSorted c ↔ c.live.Pairwise (fun a b => a.seqNr < b.seqNr) := by
  unfold Ctrs.live
  rw [pairwise_iff_getElem]
  constructor
  · intro h i j hi hj hij
    rw [length_take, Nat.lt_min] at hi hj
    rw [getElem_take, getElem_take]
    exact h i j _ _ hij hj.1 (getElem?_eq_getElem hi.2) (getElem?_eq_getElem hj.2)
  · intro h j1 j2 x1 x2 h12 h2 e1 e2
    obtain ⟨l1, rfl⟩ := List.getElem?_eq_some_iff.mp e1
    obtain ⟨l2, rfl⟩ := List.getElem?_eq_some_iff.mp e2
    have := h j1 j2 (by rw [length_take]; exact Nat.lt_min.mpr ⟨Nat.lt_trans h12 h2, l1⟩)
      (by rw [length_take]; exact Nat.lt_min.mpr ⟨h2, l2⟩) h12
    rwa [getElem_take, getElem_take] at this

/-- every live counter is inside the window below the newest one -/
def Fresh (c : Ctrs) (w : Nat) : Prop := ∀ x ∈ c.live, mxOf c < x.seqNr + w

/-- a fresh counter for `n`, not below the newest number, appended to what is left of the live counters -/
theorem ctr_append {c c' : Ctrs} {w n k : Nat} (hc' : CW c' w) (hl : c'.live = c.live.drop k ++ [⟨n, 1⟩])
    (hn : c.nr ≠ 0 → mxOf c ≤ n) : CtrAdded c c' w n ∧ mxOf c' = n := by
  obtain ⟨h0, hmx⟩ := mxOf_of_live hc' hl (by simp)
  rw [lastNr_concat] at hmx
  refine ⟨⟨hc', h0, Nat.le_of_eq hmx.symm, fun h => hmx ▸ hn h, fun x hx => ?_⟩, hmx⟩
  rcases mem_append.mp (hl ▸ hx) with h | h
  · exact Or.inl (mem_of_mem_drop h)
  · exact Or.inr (Or.inl (mem_singleton.mp h ▸ ⟨rfl, rfl⟩))

/-- a fresh counter for `n`, not above the newest number, put in before the live counter at `i` -/
theorem ctr_insert {c c' : Ctrs} {w n i k : Nat} (hc : CW c w) (hc' : CW c' w) (hi : i < c.nr)
    (hl : c'.live = (c.live.take i).drop k ++ ⟨n, 1⟩ :: c.live.drop i) (hn : n ≤ mxOf c) :
    CtrAdded c c' w n ∧ mxOf c' = mxOf c := by
  obtain ⟨h0, hmx⟩ := mxOf_of_live hc' hl (by simp)
  rw [lastNr_append_drop _ _ _ _ (hc.live_length.symm ▸ hi), ← mxOf_eq_lastNr hc (Nat.ne_of_gt (Nat.zero_lt_of_lt hi))] at hmx
  refine ⟨⟨hc', h0, hmx ▸ hn, fun _ => Nat.le_of_eq hmx.symm, fun x hx => ?_⟩, hmx⟩
  rcases mem_append.mp (hl ▸ hx) with h | h
  · exact Or.inl (mem_of_mem_take (mem_of_mem_drop h))
  · rcases mem_cons.mp h with rfl | h
    · exact Or.inr (Or.inl ⟨rfl, rfl⟩)
    · exact Or.inl (mem_of_mem_drop h)

theorem ctr_bump {c c' : Ctrs} {w n i : Nat} {y : Ctr} (hc : CW c w) (hc' : CW c' w) (h0 : c.nr ≠ 0)
    (hy : c.live[i]? = some y) (hyn : y.seqNr = n) (hl : c'.live = c.live.set i ⟨n, y.count + 1⟩) (hn : n ≤ mxOf c) :
    CtrAdded c c' w n ∧ mxOf c' = mxOf c := by
  obtain ⟨h1, hmx⟩ := mxOf_of_live hc' hl (fun hz => h0 (by
    have := congrArg length hz; rwa [length_set, hc.live_length] at this))
  rw [lastNr_set _ _ _ y hy hyn.symm, ← mxOf_eq_lastNr hc h0] at hmx
  refine ⟨⟨hc', h1, hmx ▸ hn, fun _ => Nat.le_of_eq hmx.symm, fun x hx => ?_⟩, hmx⟩
  rcases mem_or_eq_of_mem_set (hl ▸ hx) with h | rfl
  · exact Or.inl h
  · exact Or.inr (Or.inr ⟨y, mem_of_getElem? hy, hyn, rfl, rfl⟩)

theorem lt_minFromMax_iff (c : Ctrs) (a mx : Nat) : a < c.minFromMax mx ↔ a + c.w ≤ mx := by
  unfold Ctrs.minFromMax
  split <;> omega

/-- `seqCounters.add` in the branch `min ≤ seqNr ≤ max`, seen on the live counters: the counter of `n` is bumped in place, or
`n` is below all and ignored, or a fresh counter is put in at the position found, in a full window after dropping the oldest -/
theorem addInside_live (c : Ctrs) (w n : Nat) (hc : CW c w) :
    ∃ c', c.addInside n = some c' ∧ CW c' w ∧
      ((∃ i y, c.live[i]? = some y ∧ y.seqNr = n ∧ c'.live = c.live.set i ⟨n, y.count + 1⟩) ∨
       ((∀ y ∈ c.live, y.seqNr ≠ n) ∧ (c' = c ∨ ∃ i k, insPos c.live n (c.nr - 1) = some i ∧
          c'.live = (c.live.take i).drop k ++ ⟨n, 1⟩ :: c.live.drop i))) := by
  have hll := hc.live_length
  have ⟨hweq, hlen, hnr⟩ := hc
  have hnl := hc.nr_le
  have hins : ∀ i, insPos c.live n (c.nr - 1) = some i → 1 ≤ i ∧ i ≤ c.nr := fun i hp =>
    have ⟨h1, _, h3, _⟩ := insPos_spec _ _ _ _ hp
    ⟨h1, Nat.le_of_lt (hll ▸ h3)⟩
  fun_cases Ctrs.addInside c n with
  | case1 i hf =>
    obtain ⟨hi, hyn⟩ := findIdx_some _ _ _ hf
    refine ⟨_, rfl, ⟨hweq, by rw [length_set]; exact hlen, hnr⟩, Or.inl ⟨i, c.live[i], getElem?_eq_getElem hi, hyn, ?_⟩⟩
    show (c.arr.set i _).take c.nr = _
    rw [take_set, getD_eq_getElem?_getD, getElem?_eq_getElem (Nat.lt_of_lt_of_le (hll ▸ hi) hnl)]
    simp only [Ctrs.live, getElem_take]; rfl
  | case2 hf => exact ⟨c, rfl, hc, Or.inr ⟨findIdx_none _ _ hf, Or.inl rfl⟩⟩
  | case3 hf i hp hw hlt =>
    refine ⟨_, rfl, ⟨hweq, ?_, hweq ▸ hw⟩,
      Or.inr ⟨findIdx_none _ _ hf, Or.inr ⟨i, 0, hp, take_insert c.arr i c.nr _ (hins i hp).2 hlt⟩⟩⟩
    rw [length_set, copyWithin_length]; exact hlen
  | case4 _ _ _ hw hlt => exact absurd (hlen ▸ hweq ▸ hw) hlt
  | case5 hf i hp =>
    refine ⟨_, rfl, ⟨hweq, ?_, hnr⟩,
      Or.inr ⟨findIdx_none _ _ hf, Or.inr ⟨i, 1, hp, take_evict_insert c.arr i c.nr _ (hins i hp).1 (hins i hp).2 hnl⟩⟩⟩
    rw [length_set, copyWithin_length]; exact hlen
  | case6 _ i hp _ hi => exact absurd (Nat.le_trans (hins i hp).2 hnl) hi

/-- `seqCounters.add` in the branch `seqNr > max`, seen on the live counters: some oldest ones go — at least those
below the new window — and the new counter is appended -/
theorem addAbove_live (c : Ctrs) (w n : Nat) (hc : CW c w) (h0 : c.nr ≠ 0) :
    ∃ c' k, c.addAbove n = some c' ∧ CW c' w ∧ c'.live = c.live.drop k ++ [⟨n, 1⟩] ∧
      countBelow c.live (c.minFromMax n) ≤ k := by
  have ⟨hweq, hlen, hnr⟩ := hc
  have hnl := hc.nr_le
  unfold Ctrs.addAbove
  simp only []
  have hcb : countBelow c.live (c.minFromMax n) ≤ c.nr := hc.live_length ▸ length_filter_le _ _
  generalize countBelow c.live (c.minFromMax n) = cb at hcb ⊢
  -- what is dropped: the outdated counters, or one to make room
  obtain ⟨k, hk, h1, h2, h3⟩ : ∃ k, (if cb = 0 ∧ c.nr = c.w then 1 else cb) = k ∧ cb ≤ k ∧ k ≤ c.nr ∧ c.nr - k < w := by
    by_cases h : cb = 0 ∧ c.nr = c.w
    · exact ⟨1, if_pos h, h.1 ▸ Nat.zero_le 1, Nat.pos_of_ne_zero h0,
        Nat.lt_of_lt_of_le (Nat.sub_lt (Nat.pos_of_ne_zero h0) Nat.one_pos) hnr⟩
    · exact ⟨cb, if_neg h, Nat.le_refl _, hcb, by omega⟩
  have harr : (if k > 0 then copyWithin c.arr 0 k c.arr.length else c.arr) = copyWithin c.arr 0 k c.arr.length := by
    split
    · rfl
    · rename_i hk0; rw [Nat.eq_zero_of_not_pos hk0, copyWithin_zero_self]
  rw [hk, if_neg (fun h => h.elim (Nat.not_lt.mpr (Nat.le_trans h2 hnl)) (Nat.not_lt.mpr h2)), harr, copyWithin_length, if_pos (hlen ▸ h3)]
  exact ⟨_, k, rfl, ⟨hweq, by rw [length_set, copyWithin_length]; exact hlen, h3⟩, take_shift_push c.arr k c.nr _ h2 hnl (hlen ▸ h3), h1⟩

theorem ctr_addAbove_spec (c : Ctrs) (w n : Nat) (hc : CW c w) (h0 : c.nr ≠ 0) (hn : mxOf c < n) :
    match c.addAbove n with
    | none => False
    | some c' => CtrAdded c c' w n ∧ (CSorted c → CSorted c' ∧ Fresh c' w) := by
  obtain ⟨c', k, hadd, hc', hl, hk⟩ := addAbove_live c w n hc h0
  rw [hadd]
  obtain ⟨ha, hmx⟩ := ctr_append hc' hl (fun _ => Nat.le_of_lt hn)
  refine ⟨ha, fun hs => ?_⟩
  rw [csorted_iff] at hs ⊢
  constructor
  · rw [hl]
    exact sorted_drop_snoc Ctr.seqNr _ k _ hs (fun a ha =>
      Nat.lt_of_le_of_lt (sorted_le_last Ctr.seqNr c.arr c.nr default h0 hc.nr_le hs a ha) hn)
  · intro x hx
    rw [hmx]
    rcases mem_append.mp (hl ▸ hx) with h | h
    · -- not below the new minimum: those form a prefix that was dropped
      have hx' := (drop_sublist_drop_left c.live hk).mem h
      rw [countBelow, sorted_drop_filter Ctr.seqNr _ (fun a b hab hb => by simp only [decide_eq_true_eq] at hb ⊢; omega) _ hs,
        mem_filter, Bool.not_eq_eq_eq_not, Bool.not_true, decide_eq_false_iff_not, lt_minFromMax_iff, hc.weq] at hx'
      exact Nat.not_le.mp hx'.2
    · rw [mem_singleton.mp h]; exact Nat.lt_add_of_pos_right (Nat.lt_of_lt_of_le (Nat.pos_of_ne_zero h0) hc.nr)

theorem ctr_addInside_spec (c : Ctrs) (w n : Nat) (hc : CW c w) (h0 : c.nr ≠ 0) (hn : n ≤ mxOf c) :
    ∃ c', c.addInside n = some c' ∧ CtrAdded c c' w n ∧
      (CSorted c → CSorted c' ∧ (mxOf c < n + w → Fresh c w → Fresh c' w)) := by
  obtain ⟨c', hadd, hc', hv⟩ := addInside_live c w n hc
  have hlen := hc.live_length
  refine ⟨c', hadd, ?_⟩
  rw [csorted_iff, csorted_iff]
  rcases hv with ⟨i, y, hy, hyn, hl⟩ | ⟨hne, rfl | ⟨i, k, hp, hl⟩⟩
  · -- the numbers are unchanged
    obtain ⟨ha, hmx⟩ := ctr_bump hc hc' h0 hy hyn hl hn
    refine ⟨ha, fun hs => ⟨?_, fun _ hf x hx => ?_⟩⟩
    · rw [hl, ← pairwise_map (f := Ctr.seqNr) (R := (· < ·)), map_set_same _ _ _ _ y hy hyn.symm, pairwise_map]
      exact hs
    · rw [hmx]
      rcases mem_or_eq_of_mem_set (hl ▸ hx) with h | rfl
      · exact hf x h
      · exact hyn ▸ hf y (mem_of_getElem? hy)
  · exact ⟨⟨hc, h0, hn, fun _ => Nat.le_refl _, fun x hx => Or.inl hx⟩, fun hs => ⟨hs, fun _ hf => hf⟩⟩
  · obtain ⟨hi1, hi2, hi3, hlo, hhi⟩ := insPos_spec _ _ _ _ hp
    rw [hlen] at hi3
    obtain ⟨ha, hmx⟩ := ctr_insert hc hc' hi3 hl hn
    refine ⟨ha, fun hs => ⟨?_, fun hnew hf x hx => ?_⟩⟩
    · rw [hl]
      refine sorted_splice _ _ i k _ hs (by omega) ?_ ?_
      · intro y _ hy
        rw [getD_eq_getElem?_getD, hy] at hlo; exact hlo
      · intro y hy
        have hge : n ≤ y.seqNr := by
          by_cases hlast : i < c.nr - 1
          · have := hhi i (Nat.le_refl i) hlast (by omega)
            rwa [getD_eq_getElem?_getD, hy] at this
          · rw [mxOf_eq_lastNr hc h0, lastNr, getLast?_eq_getElem?, hlen, show c.nr - 1 = i by omega, hy] at hn
            exact hn
        exact Nat.lt_of_le_of_ne hge (Ne.symm (hne y (mem_of_getElem? hy)))
    · rw [hmx]
      rcases ha.mem x hx with h | ⟨h, _⟩ | ⟨y, hy, hyn, _⟩
      · exact hf x h
      · rw [h]; exact hnew
      · exact absurd hyn (hne y hy)

/-- **`seqCounters.add` never indexes out of range** on a well-formed counter array; every live counter afterwards is an
old one, a fresh one for `n` with count 1, or the old counter of `n` incremented; **the counters stay strictly
increasing**; they stay inside the window if they were, and an add to an empty array or above the newest number brings them
all inside whatever they were -/
theorem ctr_add_spec_sorted (c : Ctrs) (w n : Nat) (hc : CW c w) (hw0 : 0 < w) :
    ∃ c', c.add n = some c' ∧ CtrAdded c c' w n ∧
      (CSorted c → CSorted c' ∧ ((c.nr ≠ 0 → n ≤ mxOf c → Fresh c w) → Fresh c' w)) := by
  fun_cases Ctrs.add c n with
  | case1 h0 hlt =>
    have hc' : CW { c with arr := c.arr.set 0 ⟨n, 1⟩, nr := 1 } w := ⟨hc.weq, by rw [length_set]; exact hc.len, hw0⟩
    have hnil : c.live = [] := by rw [Ctrs.live, h0]; rfl
    have hl : ({ c with arr := c.arr.set 0 ⟨n, 1⟩, nr := 1 } : Ctrs).live = c.live.drop 0 ++ [⟨n, 1⟩] := by
      rw [hnil]; exact take_set_succ c.arr 0 _ hlt
    obtain ⟨ha, hmx⟩ := ctr_append hc' hl (fun h => absurd h0 h)
    refine ⟨_, rfl, ha, fun _ => ⟨?_, fun _ x hx => ?_⟩⟩
    · rw [csorted_iff, hl, hnil]; exact pairwise_singleton _ _
    · rw [hl, hnil] at hx
      rw [hmx, mem_singleton.mp hx]; exact Nat.lt_add_of_pos_right hw0
  | case2 _ hlt => exact absurd (hc.len ▸ hw0) hlt
  | case3 _ hlt => exact absurd hc.nr_le (Nat.not_le.mpr hlt)
  | @case4 h0 _ mx mn h1 =>
    -- too old: ignored.  The `let mx` of `Ctrs.add` is `mxOf c`
    have h1' : n + w ≤ mxOf c := hc.weq ▸ (lt_minFromMax_iff c n _).mp h1
    have hle : n ≤ mxOf c := Nat.le_trans (Nat.le_add_right n w) h1'
    exact ⟨c, rfl, ⟨hc, h0, hle, fun _ => Nat.le_refl _, fun x hx => Or.inl hx⟩, fun hs => ⟨hs, fun hf => hf h0 hle⟩⟩
  | @case5 h0 _ mx mn _ h2 =>
    have := ctr_addAbove_spec c w n hc h0 h2
    cases h : c.addAbove n with
    | none => rw [h] at this; exact this.elim
    | some c' => rw [h] at this; exact ⟨c', rfl, this.1, fun hs => ⟨(this.2 hs).1, fun _ => (this.2 hs).2⟩⟩
  | @case6 h0 _ mx mn h1 h2 =>
    have hle : n ≤ mxOf c := Nat.not_lt.mp h2
    obtain ⟨c', hadd, ha, hs'⟩ := ctr_addInside_spec c w n hc h0 hle
    exact ⟨c', hadd, ha, fun hs => ⟨(hs' hs).1, fun hf =>
      (hs' hs).2 (hc.weq ▸ Nat.not_le.mp (mt (lt_minFromMax_iff c n _).mpr h1)) (hf h0 hle)⟩⟩

theorem ctr_add_spec (c : Ctrs) (w n : Nat) (hc : CW c w) (hw0 : 0 < w) :
    match c.add n with
    | none => False
    | some c' => CtrAdded c c' w n := by
  obtain ⟨c', h, ha, _⟩ := ctr_add_spec_sorted c w n hc hw0
  rw [h]; exact ha

/-- `seqCounters.resize`: keeps the newest counters -/
theorem ctr_resize_spec (c : Ctrs) (w w' : Nat) (hc : CW c w) :
    ∃ c', c.resize w' = some c' ∧ CW c' w' ∧ c'.live = c.live.drop (c.nr - w') := by
  have ⟨hweq, hlen, hnr⟩ := hc
  have hnl := hc.nr_le
  fun_cases Ctrs.resize c w' with
  | case1 h1 =>
    have hn : c.nr ≤ w' := Nat.le_trans hnr (hweq ▸ Nat.le_of_lt h1)
    rw [Nat.sub_eq_zero_of_le hn]
    exact ⟨_, rfl, ⟨rfl, length_grow _ _ _, hn⟩, take_grow _ _ _ _ hn hnl⟩
  | case2 _ h2 h3 => exact absurd (hlen ▸ hweq ▸ Nat.le_of_lt h2) (Nat.not_le.mpr h3)
  | case3 _ _ _ _ h5 => exact absurd hnl (Nat.not_le.mpr h5)
  | case4 _ _ hwl h3 =>
    refine ⟨_, rfl, ⟨rfl, ?_, Nat.le_refl _⟩, ?_⟩
    · rw [length_take, copyWithin_length]; exact Nat.min_eq_left (Nat.not_lt.mp hwl)
    · show ((copyWithin c.arr 0 (c.nr - w') c.nr).take w').take w' = _
      rw [take_take, Nat.min_self, take_shift c.arr (k := c.nr - w') (m := w') (Nat.sub_add_cancel (Nat.le_of_lt h3)) (Nat.le_refl _) hnl]
      rfl
  | case5 _ _ hwl h3 =>
    have hn : c.nr ≤ w' := Nat.not_lt.mp h3
    rw [Nat.sub_eq_zero_of_le hn]
    refine ⟨_, rfl, ⟨rfl, length_take_of_le (Nat.not_lt.mp hwl), hn⟩, ?_⟩
    show (c.arr.take w').take c.nr = _
    rw [take_take, Nat.min_eq_left hn]; rfl
  | case6 h1 h2 =>
    have hw : w' = w := hweq ▸ Nat.le_antisymm (Nat.not_lt.mp h1) (Nat.not_lt.mp h2)
    rw [hw, Nat.sub_eq_zero_of_le hnr]
    exact ⟨c, rfl, hc, rfl⟩

/-- **`seqCounters.drop`** keeps the counter array well-formed -/
theorem ctr_drop_spec (c : Ctrs) (w n : Nat) (hc : CW c w) : ∃ c', c.drop n = some c' ∧ CW c' w := by
  have ⟨hweq, hlen, hnr⟩ := hc
  fun_cases Ctrs.drop c n with
  | case1 h => exact absurd hc.nr_le (Nat.not_le.mpr h)
  | case2 => exact ⟨c, rfl, hc⟩
  | case3 _ i =>
    refine ⟨_, rfl, ⟨hweq, ?_, Nat.le_trans (Nat.sub_le _ _) hnr⟩⟩
    show (if i + 1 < c.w then copyWithin c.arr i (i + 1) c.arr.length else c.arr).length = w
    rw [apply_ite length, copyWithin_length, ite_self]; exact hlen

theorem dropAll_spec (c : Ctrs) (w : Nat) (l : List Nat) (hc : CW c w) : ∃ c', dropAll c l = some c' ∧ CW c' w := by
  induction l generalizing c with
  | nil => exact ⟨c, rfl, hc⟩
  | cons n t ih =>
    obtain ⟨c1, h1, hc1⟩ := ctr_drop_spec c w n hc
    obtain ⟨c2, h2, hc2⟩ := ih c1 hc1
    exact ⟨c2, by simp only [dropAll, h1, h2], hc2⟩

/-! ## the generator -/

structure GShape (g : Gen) : Prop where
  wpos : 0 < g.w
  wlt : g.w < U32
  cw : CW g.ctrs g.w
  nodup : (g.bufs.map (·.1)).Nodup
  bw : ∀ p ∈ g.bufs, BW p.2 g.w

theorem gshape_new (w : Nat) (h0 : 0 < w) (h1 : w < U32) : GShape (Gen.new w) :=
  ⟨h0, h1, ⟨rfl, by simp [Gen.new, Ctrs.new], by simp [Gen.new, Ctrs.new]⟩, by simp [Gen.new], by simp [Gen.new]⟩

theorem bw_new (w : Nat) : BW (Buf.new w) w :=
  ⟨rfl, by simp [Buf.new], by simp [Buf.new], by simp [Buf.new, Buf.live, SortedI]⟩

theorem lookupBuf_none (bufs : List (String × Buf)) (name : String) :
    lookupBuf bufs name = none ↔ bufs.any (·.1 = name) = false := by
  unfold lookupBuf
  simp

theorem lookupBuf_some_mem (bufs : List (String × Buf)) (name : String) (b : Buf) (h : lookupBuf bufs name = some b) :
    (name, b) ∈ bufs := by
  obtain ⟨p, hp, rfl⟩ := Option.map_eq_some_iff.mp h
  obtain ⟨rfl, he⟩ := List.find?_fst_some hp
  exact he

/-- with distinct track names the buffer found for a name is the only one of that name -/
theorem lookupBuf_unique (bufs : List (String × Buf)) (name : String) (b : Buf)
    (hnd : (bufs.map (·.1)).Nodup) (h : lookupBuf bufs name = some b) : ∀ p ∈ bufs, p.1 = name → p.2 = b :=
  fun _ hp hpn => congrArg Prod.snd (eq_of_fst_eq_of_nodup hnd hp (lookupBuf_some_mem _ _ _ h) hpn)

theorem mem_setBuf_cases (bufs : List (String × Buf)) (name : String) (b : Buf) (p : String × Buf)
    (hp : p ∈ setBuf bufs name b) : p = (name, b) ∨ p ∈ bufs := by
  unfold setBuf at hp
  split at hp
  · obtain ⟨q, hq, rfl⟩ := List.mem_map.mp hp
    split
    · exact Or.inl rfl
    · exact Or.inr hq
  · rcases List.mem_append.mp hp with h | h
    · exact Or.inr h
    · exact Or.inl (mem_singleton.mp h)

theorem setBuf_names (bufs : List (String × Buf)) (name : String) (b : Buf) :
    (setBuf bufs name b).map (·.1) = if bufs.any (·.1 = name) then bufs.map (·.1) else bufs.map (·.1) ++ [name] := by
  unfold setBuf
  split
  · rw [List.map_map]
    apply List.map_congr_left
    intro p _
    simp only [Function.comp]
    split
    · rename_i h; exact h.symm
    · rfl
  · simp

theorem setBuf_nodup (bufs : List (String × Buf)) (name : String) (b : Buf) (h : (bufs.map (·.1)).Nodup) :
    ((setBuf bufs name b).map (·.1)).Nodup := by
  rw [setBuf_names]
  split
  · exact h
  · rename_i hn
    refine nodup_append.mpr ⟨h, pairwise_singleton _ _, fun a ha c hc hac => hn ?_⟩
    obtain ⟨p, hp, rfl⟩ := mem_map.mp ha
    exact any_eq_true.mpr ⟨p, hp, decide_eq_true (hac.trans (mem_singleton.mp hc))⟩

theorem setBuf_length (bufs : List (String × Buf)) (name : String) (b : Buf) :
    (setBuf bufs name b).length = if bufs.any (·.1 = name) then bufs.length else bufs.length + 1 := by
  unfold setBuf; split <;> simp

/-! ### `addSegmentData`: one case analysis for every invariant -/

/-- the buffer `addSegmentData` works on: the track's buffer or a fresh one.  `buf0` and `tracks1` repeat the `let`s `b0` and
`tracks` of `Gen.add` word for word: `gen_add_cases` unfolds them to meet the model's text, so they change with it. -/
def Gen.buf0 (g : Gen) (name : String) : Buf := (lookupBuf g.bufs name).getD (Buf.new g.w)

/-- the track count `addSegmentData` leaves: a track first seen after the start is counted at once -/
def Gen.tracks1 (g : Gen) (name : String) : Nat :=
  if (lookupBuf g.bufs name).isNone && g.started then g.bufs.length + 1 else g.tracks

theorem GShape.buf0 {g : Gen} (hg : GShape g) (name : String) : BW (g.buf0 name) g.w := by
  unfold Gen.buf0
  cases h : lookupBuf g.bufs name with
  | none => exact bw_new _
  | some b => exact hg.bw _ (lookupBuf_some_mem _ _ _ h)

theorem GShape.buf0_unique {g : Gen} (hg : GShape g) (name : String) : ∀ p ∈ g.bufs, p.1 = name → p.2 = g.buf0 name := by
  unfold Gen.buf0
  intro p hp hpn
  cases h : lookupBuf g.bufs name with
  | none =>
    have := (lookupBuf_none _ _).mp h
    rw [any_eq_false] at this
    exact absurd (by simpa using hpn) (this p hp)
  | some b => exact lookupBuf_unique _ _ _ hg.nodup h p hp hpn

theorem buf0_live {g : Gen} (name : String) (z : Item) (hz : z ∈ (g.buf0 name).live) : ∃ p ∈ g.bufs, z ∈ p.2.live := by
  unfold Gen.buf0 at hz
  cases hl : lookupBuf g.bufs name with
  | none => rw [hl] at hz; simp [Buf.new, Buf.live] at hz
  | some b => rw [hl] at hz; exact ⟨_, lookupBuf_some_mem _ _ _ hl, hz⟩

/-- **`addSegmentData` cannot panic on a well-shaped generator**, and whatever it leaves behind is the old state (an unshifted
segment after a shifted start), the old state with the track's buffer registered (number not increasing), or the state
after a successful `segDataBuffer.add` and `seqCounters.add`. -/
theorem gen_add_cases (g : Gen) (name : String) (it : Item) (hg : GShape g) (hn : it.seqNr < U32) (P : Gen → Prop)
    (hskip : P g) (herr : P { g with bufs := setBuf g.bufs name (g.buf0 name), tracks := g.tracks1 name })
    (hok : ∀ b1 c1, BufAdded (g.buf0 name) b1 g.w it → CtrAdded g.ctrs c1 g.w it.seqNr →
      (CSorted g.ctrs → CSorted c1 ∧ ((g.ctrs.nr ≠ 0 → it.seqNr ≤ mxOf g.ctrs → Fresh g.ctrs g.w) → Fresh c1 g.w)) →
      P { g with bufs := setBuf g.bufs name b1, ctrs := c1, tracks := g.tracks1 name }) :
    match g.add name it with
    | .panic => False
    | .err g' => P g'
    | .ok g' _ => P g' := by
  have hspec := buf_add_spec (g.buf0 name) g.w it (hg.buf0 name) hg.wpos hg.wlt hn
  obtain ⟨c1, hca, hcs, hsf⟩ := ctr_add_spec_sorted g.ctrs g.w it.seqNr hg.cw hg.wpos
  unfold Gen.buf0 Gen.tracks1 at *
  unfold Gen.add
  by_cases hs : (g.shifted && !it.shifted) = true
  · rw [if_pos hs]; exact hskip
  · rw [if_neg hs]
    simp only []
    cases hadd : ((lookupBuf g.bufs name).getD (Buf.new g.w)).add it with
    | panic => rw [hadd] at hspec; exact hspec
    | notIncreasing => exact herr
    | ok b1 =>
      rw [hadd] at hspec
      simp only [hca]
      by_cases hst : g.started = true
      · rw [if_pos hst]
        unfold Ctrs.newFullCounter
        rw [if_neg (Nat.not_lt.mpr hcs.cw.nr_le)]
        exact hok b1 c1 hspec hcs hsf
      · rw [if_neg hst]; exact hok b1 c1 hspec hcs hsf

theorem GShape.step {g : Gen} (hg : GShape g) (name : String) (b : Buf) (c : Ctrs) (tracks : Nat) (hb : BW b g.w)
    (hc : CW c g.w) : GShape { g with bufs := setBuf g.bufs name b, ctrs := c, tracks := tracks } :=
  ⟨hg.wpos, hg.wlt, hc, setBuf_nodup _ _ _ hg.nodup, fun p hp => by
    rcases mem_setBuf_cases _ _ _ _ hp with rfl | h
    · exact hb
    · exact hg.bw p h⟩

/-- **`addSegmentData` keeps the shape and cannot panic** -/
theorem gen_add_shape (g : Gen) (name : String) (it : Item) (hg : GShape g) (hn : it.seqNr < U32) :
    match g.add name it with
    | .panic => False
    | .err g' => GShape g'
    | .ok g' _ => GShape g' :=
  gen_add_cases g name it hg hn GShape hg (hg.step _ _ _ _ (hg.buf0 name) hg.cw)
    (fun _ _ hb hc _ => hg.step _ _ _ _ hb.bw hc.cw)

/-! ### `dropSeqNr` and `start` -/

/-- `mapBufs` with an operation that succeeds on every buffer is a `map` over the buffers -/
theorem mapBufs_spec (f : Buf → Option Buf) (R : Buf → Buf → Prop) (bufs : List (String × Buf))
    (h : ∀ p ∈ bufs, ∃ b', f p.2 = some b' ∧ R p.2 b') :
    ∃ g : Buf → Buf, mapBufs f bufs = some (bufs.map (fun p => (p.1, g p.2))) ∧ ∀ p ∈ bufs, R p.2 (g p.2) := by
  refine ⟨fun b => (f b).getD b, ?_, fun p hp => ?_⟩
  · induction bufs with
    | nil => rfl
    | cons q t ih =>
      obtain ⟨b', hb', _⟩ := h q (mem_cons_self ..)
      rw [mapBufs, ih (fun p hp => h p (mem_cons_of_mem _ hp))]
      simp only [hb', map_cons, Option.getD_some]
  · obtain ⟨b', hb', hR⟩ := h p hp
    simp only [hb', Option.getD_some]; exact hR

theorem mapBufs_shape (f : Buf → Option Buf) (w : Nat) (bufs : List (String × Buf))
    (h : ∀ p ∈ bufs, ∃ b', f p.2 = some b' ∧ BW b' w) :
    ∃ bufs', mapBufs f bufs = some bufs' ∧ bufs'.map (·.1) = bufs.map (·.1) ∧ ∀ p' ∈ bufs', BW p'.2 w := by
  obtain ⟨g, h1, h2⟩ := mapBufs_spec f (fun _ b' => BW b' w) bufs h
  refine ⟨_, h1, by rw [map_map]; rfl, fun p' hp' => ?_⟩
  obtain ⟨p, hp, rfl⟩ := mem_map.mp hp'
  exact h2 p hp

/-- **`dropSeqNr` of the generator keeps the shape and cannot panic** -/
theorem gen_drop_shape (g : Gen) (n : Nat) (hg : GShape g) : ∃ g', g.dropSeqNr n = some g' ∧ GShape g' := by
  obtain ⟨bufs', hb, hnames, hbw⟩ := mapBufs_shape (·.dropSeqNr n) g.w g.bufs (fun p hp => buf_drop_spec p.2 g.w n (hg.bw p hp))
  obtain ⟨c', hc, hcw⟩ := ctr_drop_spec g.ctrs g.w n hg.cw
  refine ⟨{ g with bufs := bufs', ctrs := c' }, ?_, ⟨hg.wpos, hg.wlt, hcw, ?_, hbw⟩⟩
  · unfold Gen.dropSeqNr; simp only [hb, hc]
  · show (bufs'.map (·.1)).Nodup; rw [hnames]; exact hg.nodup

theorem start_eq (g : Gen) (w : Nat) (sh : Bool) (bufs' : List (String × Buf)) (c' : Ctrs)
    (hb : mapBufs (·.resize w) g.bufs = some bufs') (hc : g.ctrs.resize w = some c') :
    g.start w sh =
      if sh then (startShift bufs' c').map (fun r =>
        { bufs := r.1, ctrs := r.2, latest := g.latest, w := w, tracks := r.1.length, started := true, shifted := true })
      else some { bufs := bufs', ctrs := c', latest := g.latest, w := w, tracks := bufs'.length, started := true, shifted := false } := by
  unfold Gen.start Gen.resize
  simp only [hb, hc]
  cases sh
  · rfl
  · cases startShift bufs' c' with
    | none => rfl
    | some r => rfl

theorem startShift_spec (bufs : List (String × Buf)) (c : Ctrs) (w : Nat) (hb : ∀ p ∈ bufs, BW p.2 w) (hc : CW c w) :
    ∃ bs' c', startShift bufs c = some (bs', c') ∧ bs'.map (·.1) = bufs.map (·.1) ∧ (∀ p ∈ bs', BW p.2 w) ∧ CW c' w := by
  induction bufs generalizing c with
  | nil => exact ⟨[], c, rfl, rfl, by simp, hc⟩
  | cons q t ih =>
    obtain ⟨name, b⟩ := q
    obtain ⟨b', un, hr, hbw⟩ := buf_removeUnshifted_spec b w (hb (name, b) (by simp))
    obtain ⟨c1, h1, hc1⟩ := dropAll_spec c w un hc
    obtain ⟨t', c2, h2, hn, hbt, hc2⟩ := ih c1 (fun p hp => hb p (by simp [hp])) hc1
    refine ⟨(name, b') :: t', c2, ?_, by simp [hn], ?_, hc2⟩
    · simp only [startShift, hr, h1, h2]
    · intro p hp
      rcases List.mem_cons.mp hp with rfl | hp
      · exact hbw
      · exact hbt p hp

/-- **`start`, shifted or not, to any window keeps the shape and cannot panic** -/
theorem gen_start_shape (g : Gen) (w : Nat) (sh : Bool) (hg : GShape g) (hw0 : 0 < w) (hw : w < U32) :
    ∃ g', g.start w sh = some g' ∧ GShape g' := by
  obtain ⟨c', hc', hcw', _⟩ := ctr_resize_spec g.ctrs g.w w hg.cw
  obtain ⟨bufs', hb', hnames, hbw'⟩ := mapBufs_shape (·.resize w) w g.bufs
    (fun p hp => by
      obtain ⟨b', h1, h2, _⟩ := buf_resize_spec p.2 g.w w (hg.bw p hp)
      exact ⟨b', h1, h2⟩)
  have hnd : (bufs'.map (·.1)).Nodup := by rw [hnames]; exact hg.nodup
  rw [start_eq g w sh bufs' c' hb' hc']
  cases sh with
  | false => exact ⟨_, rfl, ⟨hw0, hw, hcw', hnd, hbw'⟩⟩
  | true =>
    obtain ⟨bs2, c2, hs, hn2, hb2, hc2⟩ := startShift_spec bufs' c' w hbw' hcw'
    rw [hs]
    exact ⟨_, rfl, ⟨hw0, hw, hc2, by show (bs2.map (·.1)).Nodup; rw [hn2]; exact hnd, hb2⟩⟩

end Recv
