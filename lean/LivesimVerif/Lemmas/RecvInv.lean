import LivesimVerif.Lemmas.RecvShape
/-!
# The receiver's bookkeeping invariant (C17)

`GInv` relates the per-number counters to the per-track buffers: a live counter inside the current window never counts
more tracks than there are buffers holding that number.  It is preserved by every `addSegmentData`, whatever the
arrival order (the case analysis is `gen_add_cases` of `Lemmas/RecvShape.lean`).  `GSorted` and `GFresh` add sorted counters
and counters inside the window; both survive uploads, and the unshifted `start` takes `GFresh` to `GSorted`, to `GFresh`
again if the window does not shrink.
-/
namespace Recv
open List

def holdsB (b : Buf) (k : Nat) : Bool := b.live.any (·.seqNr = k)

/-- number of track buffers holding number `k` -/
def holders (bufs : List (String × Buf)) (k : Nat) : Nat := (bufs.filter (fun p => holdsB p.2 k)).length

theorem holdsB_iff (b : Buf) (k : Nat) : holdsB b k = true ↔ ∃ x ∈ b.live, x.seqNr = k := by
  unfold holdsB; rw [List.any_eq_true]; simp

theorem getItem_isSome (b : Buf) (k : Nat) : (b.getItem k).isSome = holdsB b k := by
  unfold Buf.getItem holdsB
  rw [Bool.eq_iff_iff]
  simp

/-- the first five fields are those of `GShape` (`GInv.shape`), written out so that `c17_bounded` and the like read them off
`GInv`; `win`: a live counter inside the window counts at most the buffers holding its number; `tr`: once started,
`_nrTracks` is the number of buffers -/
structure GInv (g : Gen) : Prop where
  wpos : 0 < g.w
  wlt : g.w < U32
  cw : CW g.ctrs g.w
  nodup : (g.bufs.map (·.1)).Nodup
  bw : ∀ p ∈ g.bufs, BW p.2 g.w
  win : ∀ c ∈ g.ctrs.live, mxOf g.ctrs < c.seqNr + g.w → c.count ≤ holders g.bufs c.seqNr
  tr : g.started = true → g.tracks = g.bufs.length

theorem GInv.shape {g : Gen} (h : GInv g) : GShape g := ⟨h.wpos, h.wlt, h.cw, h.nodup, h.bw⟩

theorem GInv.of_shape {g : Gen} (h : GShape g)
    (win : ∀ c ∈ g.ctrs.live, mxOf g.ctrs < c.seqNr + g.w → c.count ≤ holders g.bufs c.seqNr)
    (tr : g.started = true → g.tracks = g.bufs.length) : GInv g := ⟨h.wpos, h.wlt, h.cw, h.nodup, h.bw, win, tr⟩

/-! ## counting the holders of a number -/

theorem countP_succ_le {α} (p q : α → Bool) (l : List α) (h : ∀ x ∈ l, p x = true → q x = true) (a : α) (ha : a ∈ l)
    (hp : p a = false) (hq : q a = true) : l.countP p + 1 ≤ l.countP q := by
  obtain ⟨s, t, rfl⟩ := append_of_mem ha
  have hs : s.countP p ≤ s.countP q := countP_mono_left (fun x hx => h x (mem_append_left _ hx))
  have ht : t.countP p ≤ t.countP q := countP_mono_left (fun x hx => h x (mem_append_right _ (mem_cons_of_mem _ hx)))
  rw [countP_append, countP_append, countP_cons, countP_cons, hp, hq, if_neg Bool.false_ne_true, if_pos rfl]
  omega

theorem holders_map_le (bufs : List (String × Buf)) (f : String × Buf → String × Buf) (k : Nat)
    (h : ∀ p ∈ bufs, holdsB p.2 k = true → holdsB (f p).2 k = true) : holders bufs k ≤ holders (bufs.map f) k := by
  unfold holders
  rw [← countP_eq_length_filter, ← countP_eq_length_filter, countP_map]
  exact countP_mono_left h

/-- registering a buffer that holds `k` if the track's old buffer did loses no holder of `k` -/
theorem GShape.holders_le {g : Gen} (hg : GShape g) (name : String) (b : Buf) (k : Nat)
    (h : holdsB (g.buf0 name) k = true → holdsB b k = true) : holders g.bufs k ≤ holders (setBuf g.bufs name b) k := by
  unfold setBuf
  split
  · refine holders_map_le _ _ k (fun p hp hh => ?_)
    split
    · rename_i hn; exact h (hg.buf0_unique name p hp hn ▸ hh)
    · exact hh
  · unfold holders
    rw [filter_append, length_append]; exact Nat.le_add_right _ _

/-- registering a buffer that holds `k` when the track's old buffer did not gains a holder of `k` -/
theorem GShape.holders_succ {g : Gen} (hg : GShape g) (name : String) (b : Buf) (k : Nat)
    (h0 : holdsB (g.buf0 name) k = false) (h : holdsB b k = true) :
    holders g.bufs k + 1 ≤ holders (setBuf g.bufs name b) k := by
  unfold setBuf holders
  split
  · rename_i hany
    obtain ⟨q, hq, hqn⟩ := any_eq_true.mp hany
    have hqn' : q.1 = name := of_decide_eq_true hqn
    rw [← countP_eq_length_filter, ← countP_eq_length_filter, countP_map]
    refine countP_succ_le _ _ _ (fun p hp hh => ?_) q hq (hg.buf0_unique name q hq hqn' ▸ h0) ?_
    · show holdsB (if p.1 = name then (name, b) else p).2 k = true
      split
      · rename_i hn; rw [hg.buf0_unique name p hp hn, h0] at hh; cases hh
      · exact hh
    · show holdsB (if q.1 = name then (name, b) else q).2 k = true
      rw [if_pos hqn']; exact h
  · rw [filter_append]; simp [h]

/-! ## `addSegmentData` -/

theorem GInv.tracks1 {g : Gen} (hg : GInv g) (name : String) (b : Buf) (hst : g.started = true) :
    g.tracks1 name = (setBuf g.bufs name b).length := by
  unfold Gen.tracks1
  rw [setBuf_length, hst, hg.tr hst]
  cases h : lookupBuf g.bufs name with
  | none => rw [(lookupBuf_none _ _).mp h]; rfl
  | some b0 =>
    have : g.bufs.any (·.1 = name) = true := any_eq_true.mpr ⟨_, lookupBuf_some_mem _ _ _ h, by simp⟩
    rw [this]; rfl

theorem GInv.step_err {g : Gen} (hg : GInv g) (name : String) :
    GInv { g with bufs := setBuf g.bufs name (g.buf0 name), tracks := g.tracks1 name } := by
  have hsh := hg.shape.step name _ g.ctrs (g.tracks1 name) (hg.shape.buf0 name) hg.cw
  exact GInv.of_shape hsh (fun x hx hwin => Nat.le_trans (hg.win x hx hwin) (hg.shape.holders_le name _ _ id))
    (hg.tracks1 name _)

/-- the state after the buffer and counter updates of `addSegmentData` -/
theorem GInv.step_ok {g : Gen} (hg : GInv g) (name : String) (it : Item) (b1 : Buf) (c1 : Ctrs)
    (hadd : BufAdded (g.buf0 name) b1 g.w it) (hc : CtrAdded g.ctrs c1 g.w it.seqNr) :
    GInv { g with bufs := setBuf g.bufs name b1, ctrs := c1, tracks := g.tracks1 name } := by
  have hsh := hg.shape.step name b1 c1 (g.tracks1 name) hadd.bw hc.cw
  refine GInv.of_shape hsh (fun x hx hwin => ?_) (hg.tracks1 name _)
  obtain ⟨d, hlive, hkeep⟩ := hadd.live
  -- the track's buffer holds the new number and did not before
  have hnew : holders g.bufs it.seqNr + 1 ≤ holders (setBuf g.bufs name b1) it.seqNr := by
    refine hg.shape.holders_succ name b1 _ ?_
      ((holdsB_iff _ _).mpr ⟨it, by rw [hlive]; exact mem_append_right _ (mem_singleton_self it), rfl⟩)
    cases hh : holdsB (g.buf0 name) it.seqNr with
    | false => rfl
    | true =>
      obtain ⟨z, hz, hzk⟩ := (holdsB_iff _ _).mp hh
      exact absurd hzk (Nat.ne_of_lt (hadd.below z hz))
  show x.count ≤ holders (setBuf g.bufs name b1) x.seqNr
  have hwin' : mxOf c1 < x.seqNr + g.w := hwin
  rcases hc.mem x hx with hold | ⟨hxn, hx1⟩ | ⟨y, hy, hyn, hxn, hxc⟩
  · -- an old counter: inside the new window it was inside the old one, and what the buffer held of its number is kept
    have hmx := hc.mx_mono (live_nonempty_nr _ _ hold)
    refine Nat.le_trans (hg.win x hold (Nat.lt_of_le_of_lt hmx hwin')) (hg.shape.holders_le name b1 _ (fun hh => ?_))
    obtain ⟨z, hz, hzk⟩ := (holdsB_iff _ _).mp hh
    refine (holdsB_iff _ _).mpr ⟨z, ?_, hzk⟩
    rw [hlive]
    exact mem_append_left _ (hkeep z hz (hzk ▸ Nat.lt_of_le_of_lt hc.mx_ge hwin'))
  · rw [hx1, hxn]; exact Nat.le_trans (Nat.le_add_left 1 _) hnew
  · have hmx := hc.mx_mono (live_nonempty_nr _ _ hy)
    rw [hxn, ← hyn] at hwin'
    rw [hxc, hxn]
    exact Nat.le_trans (Nat.add_le_add_right (hyn ▸ hg.win y hy (Nat.lt_of_le_of_lt hmx hwin')) 1) hnew

/-- **Every `addSegmentData` preserves the invariant and none can panic**, whatever track and number arrive. -/
theorem gen_add_inv (g : Gen) (name : String) (it : Item) (hg : GInv g) (hn : it.seqNr < U32) :
    match g.add name it with
    | .panic => False
    | .err g' => GInv g'
    | .ok g' _ => GInv g' :=
  gen_add_cases g name it hg.shape hn GInv hg (hg.step_err name) (fun b1 c1 hb hc _ => hg.step_ok name it b1 c1 hb hc)

/-! ## sorted counters, counters inside the window -/

/-- no buffer holds a number above the newest counted one -/
def TopB (g : Gen) : Prop := ∀ p ∈ g.bufs, ∀ z ∈ p.2.live, g.ctrs.nr ≠ 0 ∧ z.seqNr ≤ mxOf g.ctrs

/-- `GInv`, sorted counters, buffers below the newest counted number -/
structure GSorted (g : Gen) : Prop where
  inv : GInv g
  sorted : CSorted g.ctrs
  top : TopB g

/-- the full bookkeeping invariant: additionally all live counters are inside the window -/
structure GFresh (g : Gen) : Prop where
  base : GSorted g
  fresh : Fresh g.ctrs g.w

theorem gen_add_sorted (g : Gen) (name : String) (it : Item) (hg : GSorted g) (hn : it.seqNr < U32) :
    match g.add name it with
    | .panic => False
    | .err g' => GSorted g' ∧ g'.w = g.w ∧ g'.started = g.started ∧ (Fresh g.ctrs g.w → Fresh g'.ctrs g'.w)
    | .ok g' _ => GSorted g' ∧ g'.w = g.w ∧ g'.started = g.started ∧ (Fresh g.ctrs g.w → Fresh g'.ctrs g'.w) := by
  refine gen_add_cases g name it hg.inv.shape hn _ ⟨hg, rfl, rfl, id⟩
    ⟨{ inv := hg.inv.step_err name, sorted := hg.sorted, top := ?_ }, rfl, rfl, id⟩ ?_
  · intro p hp z hz
    rcases mem_setBuf_cases _ _ _ _ hp with rfl | h
    · obtain ⟨q, hq, hzq⟩ := buf0_live name z hz
      exact hg.top q hq z hzq
    · exact hg.top p h z hz
  · intro b1 c1 hadd hcs hsf
    refine ⟨{ inv := hg.inv.step_ok name it b1 c1 hadd hcs, sorted := (hsf hg.sorted).1, top := ?_ }, rfl, rfl,
      fun hf => (hsf hg.sorted).2 (fun _ _ => hf)⟩
    intro p hp z hz
    refine ⟨hcs.nrpos, ?_⟩
    have hold : ∀ q ∈ g.bufs, ∀ z ∈ q.2.live, z.seqNr ≤ mxOf c1 := fun q hq z hz =>
      Nat.le_trans (hg.top q hq z hz).2 (hcs.mx_mono (hg.top q hq z hz).1)
    rcases mem_setBuf_cases _ _ _ _ hp with rfl | h
    · obtain ⟨d, hlive, _⟩ := hadd.live
      rw [hlive, List.mem_append] at hz
      rcases hz with hz | hz
      · obtain ⟨q, hq, hzq⟩ := buf0_live name z (List.mem_of_mem_drop hz)
        exact hold q hq z hzq
      · rw [mem_singleton.mp hz]; exact hcs.mx_ge
    · exact hold p h z hz

theorem gen_add_fresh (g : Gen) (name : String) (it : Item) (hg : GFresh g) (hn : it.seqNr < U32) :
    match g.add name it with
    | .panic => False
    | .err g' => GFresh g'
    | .ok g' _ => GFresh g' := by
  have h := gen_add_sorted g name it hg.base hn
  cases ha : g.add name it with
  | panic => rw [ha] at h; exact h
  | err g' => rw [ha] at h; exact ⟨h.1, h.2.2.2 hg.fresh⟩
  | ok g' n => rw [ha] at h; exact ⟨h.1, h.2.2.2 hg.fresh⟩

/-! ## `fullRange` -/

/-- loop invariant of `fullRange`; `j` is the index processed last: every number of the range has a live counter that
counts at least `tracks`, and while the loop runs the range is as long as the stretch of indices it spans.  As in the Go
loop `last = 0` stands for "no full counter seen yet", so the invariant says something only once `last ≠ 0`, and
`fullRange_spec` asks for that of the result. -/
def FRI (L : List Ctr) (tracks : Nat) (s : FR) (j : Nat) : Prop :=
  s.last ≠ 0 → (∀ k, s.first ≤ k → k ≤ s.last → ∃ x ∈ L, x.seqNr = k ∧ tracks ≤ x.count) ∧
    (s.stop = false → (s.first : Int) = (s.last : Int) - ((s.lastIdx : Int) - (j : Int)))

theorem frStep_inv (L : List Ctr) (tracks : Nat) (s : FR) (i : Nat) (c : Ctr) (hc : c ∈ L)
    (h : FRI L tracks s (i + 1)) : FRI L tracks (frStep tracks s (i, c)) i := by
  -- `frStep` takes its pair apart itself: given a variable for it, the alternatives say which pair they speak of
  generalize hic : (i, c) = ic
  fun_cases frStep tracks s ic with
  | case1 _ hstop => exact fun hl => ⟨(h hl).1, fun hf => by rw [hstop] at hf; cases hf⟩
  | case2 _ _ _ _ hl0 => exact fun hl => absurd hl0 hl
  | case3 _ _ _ _ hl0 => exact fun _ => ⟨(h hl0).1, fun hf => by cases hf⟩
  | @case4 _ _ _ _ s1 hm =>
    cases hic
    by_cases hl0 : s.last = 0
    · -- the first full counter starts the range, and cannot break it
      rw [show s1 = { s with last := c.seqNr, lastIdx := i } from if_pos hl0] at hm
      exact absurd (by simp) hm
    · rw [show s1 = s from if_neg hl0]
      exact fun _ => ⟨(h hl0).1, fun hf => by cases hf⟩
  | @case5 hstop _ _ hcnt s1 hm =>
    cases hic
    replace hm := Decidable.not_not.mp hm
    by_cases hl0 : s.last = 0
    · rw [show s1 = { s with last := c.seqNr, lastIdx := i } from if_pos hl0]
      exact fun _ => ⟨fun k hk1 hk2 => ⟨c, hc, Nat.le_antisymm hk1 hk2, Nat.not_lt.mp hcnt⟩, fun _ => by simp⟩
    · rw [show s1 = s from if_neg hl0] at hm ⊢
      obtain ⟨hgood, hrel⟩ := h hl0
      have hrel := hrel (Bool.eq_false_iff.mpr hstop)
      refine fun _ => ⟨fun k (hk1 : c.seqNr ≤ k) hk2 => ?_, fun _ => hm⟩
      by_cases hk : k = c.seqNr
      · exact ⟨c, hc, hk.symm, Nat.not_lt.mp hcnt⟩
      · exact hgood k (by omega) hk2

/-- the loop of `fullRange` runs from the newest counter down: a right fold over the indexed counters -/
theorem fr_foldr (L : List Ctr) (tracks : Nat) (t : List Ctr) (s : Nat) (ht : ∀ c ∈ t, c ∈ L) :
    FRI L tracks (((List.range' s t.length).zip t).foldr (fun ic st => frStep tracks st ic) ⟨0, 0, 0, false⟩) s := by
  induction t generalizing s with
  | nil => exact fun h => absurd rfl h
  | cons c t ih =>
    rw [length_cons, range'_succ, zip_cons_cons, foldr_cons]
    exact frStep_inv L tracks _ s c (ht c (mem_cons_self ..)) (ih (s + 1) (fun c hc => ht c (mem_cons_of_mem _ hc)))

/-- **`fullRange`** returns a range whose every number has a live counter counting at least `tracks` tracks. -/
theorem fullRange_spec (c : Ctrs) (tracks first last : Nat) (h : c.fullRange tracks = some (first, last)) (hl : last ≠ 0) :
    ∀ k, first ≤ k → k ≤ last → ∃ x ∈ c.live, x.seqNr = k ∧ tracks ≤ x.count := by
  unfold Ctrs.fullRange at h
  split at h
  · cases h
  · simp only [Option.some.injEq, Prod.mk.injEq] at h
    obtain ⟨hf, hla⟩ := h
    have hinv := fr_foldr c.live tracks c.live 0 (fun _ h => h)
    rw [← range_eq_range', ← foldl_reverse] at hinv
    have hgood := (hinv (hla ▸ hl)).1
    rw [hf, hla] at hgood
    exact hgood

/-! ## start -/

/-- **`start` (not shifted) keeps the invariant**, whatever window it resizes to; growing keeps all counters fresh. -/
theorem start_spec (g : Gen) (w : Nat) (hg : GFresh g) (hw0 : 0 < w) (hw : w < U32) :
    ∃ g', g.start w false = some g' ∧ GSorted g' ∧ g'.started = true ∧ g'.w = w ∧ (g.w ≤ w → Fresh g'.ctrs w) := by
  have hinv := hg.base.inv
  obtain ⟨c', hc', hcw', hl⟩ := ctr_resize_spec g.ctrs g.w w hinv.cw
  obtain ⟨f, hb', hf⟩ := mapBufs_spec (·.resize w) (fun b b' => BW b' w ∧ b'.live = b.live.drop (b.nr - w)) g.bufs
    (fun p hp => buf_resize_spec p.2 g.w w (hinv.bw p hp))
  have hmem_live : ∀ x ∈ c'.live, x ∈ g.ctrs.live := fun x hx => mem_of_mem_drop (hl ▸ hx)
  have hmx : g.ctrs.nr ≠ 0 → c'.nr ≠ 0 ∧ mxOf c' = mxOf g.ctrs := by
    intro h0
    have hd : g.ctrs.nr - w < g.ctrs.live.length := by rw [hinv.cw.live_length]; omega
    obtain ⟨h0', h1⟩ := mxOf_of_live hcw' hl (fun h => by
      have := congrArg length h; rw [length_drop, length_nil] at this; omega)
    rw [lastNr_drop _ _ hd, ← mxOf_eq_lastNr hinv.cw h0] at h1
    exact ⟨h0', h1⟩
  have hmx' : ∀ x ∈ c'.live, mxOf c' = mxOf g.ctrs := fun x hx => (hmx (live_nonempty_nr _ _ (hmem_live x hx))).2
  have hnd : ((g.bufs.map (fun p => (p.1, f p.2))).map (·.1)).Nodup := by rw [map_map]; exact hinv.nodup
  rw [start_eq g w false _ c' hb' hc']
  refine ⟨_, rfl, { inv := ?_, sorted := ?_, top := ?_ }, rfl, rfl, ?_⟩
  · refine GInv.of_shape { wpos := hw0, wlt := hw, cw := hcw', nodup := hnd, bw := ?_ } ?_ (fun _ => rfl)
    · intro p' hp'
      obtain ⟨p, hp, rfl⟩ := mem_map.mp hp'
      exact (hf p hp).1
    · intro x hx hwin
      have hxl := hmem_live x hx
      have hwin' : mxOf c' < x.seqNr + w := hwin
      rw [hmx' x hx] at hwin'
      -- `win` speaks of counters inside the old window only: a wider new window could take in a counter of which nothing
      -- is known, hence `GFresh` as the hypothesis.  For a narrower one the pigeonhole `sorted_drop_keep` does the work.
      refine Nat.le_trans (hinv.win x hxl (hg.fresh x hxl)) (holders_map_le _ _ _ (fun p hp hh => ?_))
      -- what a buffer holds of a number inside the new window survives its resize
      obtain ⟨z, hz, hzk⟩ := (holdsB_iff _ _).mp hh
      refine (holdsB_iff _ _).mpr ⟨z, ?_, hzk⟩
      rw [(hf p hp).2]
      have hbw := hinv.bw p hp
      by_cases hsmall : p.2.nr ≤ w
      · rw [Nat.sub_eq_zero_of_le hsmall]; exact hz
      · refine sorted_drop_keep Item.seqNr p.2.live _ x.seqNr (mxOf g.ctrs) hbw.sorted
          (fun z hz => (hg.base.top p hp z hz).2) ?_ z hz hzk
        rw [hbw.live_length]; omega
  · show CSorted c'
    rw [csorted_iff, hl]
    exact ((csorted_iff _).mp hg.base.sorted).drop
  · intro p' hp' z hz
    obtain ⟨p, hp, rfl⟩ := mem_map.mp hp'
    rw [(hf p hp).2] at hz
    obtain ⟨h0, hz'⟩ := hg.base.top p hp z (mem_of_mem_drop hz)
    exact ⟨(hmx h0).1, by show z.seqNr ≤ mxOf c'; rw [(hmx h0).2]; exact hz'⟩
  · intro hle x hx
    rw [hmx' x hx]
    exact Nat.lt_of_lt_of_le (hg.fresh x (hmem_live x hx)) (Nat.add_le_add_left hle _)

end Recv
