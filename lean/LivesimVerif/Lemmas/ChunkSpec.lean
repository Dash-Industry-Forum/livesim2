import LivesimVerif.Lemmas.ChunkParser
/-!
# The chunk parser against a schedule-free specification (C18)

`readUntil_exact`: with a reader that does not fail, `readUntil` delivers exactly the next
`target - |content|` bytes of the stream (or all that is left), whatever the read schedule.
`specGo`: the parser as a pure function of the byte string.  `parse_eq_spec`: they agree.
-/
namespace CP

/-- what `readUntil` does with a reader that never fails, for every schedule -/
structure RUExact (fuel : Nat) (st : St) (target : Nat) : Prop where
  content : (readUntil fuel st target).st.content = st.content ++ st.rd.rest.take (target - st.content.length)
  rest : (readUntil fuel st target).st.rd.rest = st.rd.rest.drop (target - st.content.length)
  nofail : (readUntil fuel st target).st.rd.failRead = none
  out : (readUntil fuel st target).st.out = st.out
  next : (readUntil fuel st target).st.next = st.next
  mdatEnd : (readUntil fuel st target).st.mdatEnd = st.mdatEnd
  start : (readUntil fuel st target).st.start = st.start
  isInit : (readUntil fuel st target).st.isInit = st.isInit
  failCb : (readUntil fuel st target).st.failCb = st.failCb
  notFail : (readUntil fuel st target).err ≠ .fail
  reached : (readUntil fuel st target).err = .none ↔ target ≤ st.content.length + st.rd.rest.length

theorem ne_none_of_eq_eof {e : RdErr} (h : e = .eof) : e ≠ .none := by rw [h]; nofun

theorem readUntil_exact (fuel : Nat) (st : St) (target : Nat) (hf : st.rd.failRead = none)
    (hfuel : st.rd.rest.length < fuel) (hle : st.content.length ≤ target) : RUExact fuel st target := by
  have R := readUntil_spec fuel st target
  obtain ⟨got, hc, hr⟩ := R.bytes
  have hlen : st.content.length + got.length ≤ target := by
    have := R.le hle; rwa [hc, List.length_append] at this
  -- without a failure the read stops at the target or at the end of the stream, whichever comes first
  have key : st.rd.rest.take (target - st.content.length) = got ∧
      st.rd.rest.drop (target - st.content.length) = (readUntil fuel st target).st.rd.rest ∧
      ((readUntil fuel st target).err = .none ↔ target ≤ st.content.length + st.rd.rest.length) := by
    cases he : (readUntil fuel st target).err with
    | none =>
      have hg : got.length = target - st.content.length := by
        have := R.reach hfuel he; rw [hc, List.length_append] at this; omega
      rw [hr, ← hg]
      exact ⟨List.take_left .., List.drop_left .., fun _ => by rw [List.length_append]; omega, fun _ => rfl⟩
    | eof =>
      have hlt := R.short (ne_none_of_eq_eof he)
      rw [hc, List.length_append] at hlt
      rw [R.eof he, List.append_nil] at hr
      rw [R.eof he, hr]
      exact ⟨List.take_of_length_le (by omega), List.drop_eq_nil_of_le (by omega), nofun, fun h => by omega⟩
    | fail => exact absurd he (R.nofail hf).2
  exact { content := by rw [hc, key.1], rest := key.2.1.symm, nofail := (R.nofail hf).1, out := R.out, next := R.next,
          mdatEnd := R.mdatEnd, start := by rw [R.frame], isInit := by rw [R.frame], failCb := by rw [R.frame],
          notFail := (R.nofail hf).2, reached := key.2.2 }

/-! ## the specification -/

inductive SRes
  | done (cbs : List Cb)
  | badSize (cbs : List Cb)
  | other (cbs : List Cb)     -- read / callback error (not possible without error injection)
  | fuel
  deriving Repr, DecidableEq

def Res.toS : Res → SRes
  | .done c => .done c
  | .badSize c => .badSize c
  | .readErr c => .other c
  | .cbErr c => .other c
  | .outOfFuel _ => .fuel

/-- The parser as a function of the byte string alone.  `acc` are the complete boxes seen since the last callback,
`rest` the bytes not yet looked at.  A callback is made when a media-data box is complete (with everything since the
previous callback), and once more at the end for whatever is left (also a truncated box); `isInit` is set from the
first movie box on; a size below 8 or one that overflows the 32-bit offset ends parsing. -/
def specGo : Nat → List Byte → List Byte → Nat → Bool → List Cb → SRes
  | 0, _, _, _, _, _ => .fuel
  | fuel+1, rest, acc, start, isInit, out =>
    if rest.length < 8 then
      (if (acc ++ rest).length > 0 then .done (out ++ [⟨start, isInit, acc ++ rest⟩]) else .done out)
    else
      let size := be32 (rest.take 4)
      let typ := (rest.take 8).drop 4
      if !(decide (8 ≤ size) && decide (acc.length + size < U32)) then .badSize out
      else
        let isInit' := isInit || typ == moovTag
        if rest.length < size then .done (out ++ [⟨start, isInit', acc ++ rest⟩])
        else if typ == mdatTag then
          specGo fuel (rest.drop size) [] ((start + (acc.length + size)) % U32) isInit'
            (out ++ [⟨start, isInit', acc ++ rest.take size⟩])
        else specGo fuel (rest.drop size) (acc ++ rest.take size) start isInit' out

def spec (input : List Byte) : SRes := specGo (fuelFor input) input [] 0 false []

/-- loop-head invariant of `Parse` without error injection -/
structure LH (st : St) : Prop where
  nofail : st.rd.failRead = none
  nocb : st.failCb = none
  next : st.next = st.content.length      -- the buffer holds whole boxes only
  mdat : st.mdatEnd = 0

theorem deliverAll_nocb (st : St) (h : st.failCb = none) :
    (deliverAll st).toS = if st.content.length > 0 then .done (st.out ++ [⟨st.start, st.isInit, st.content⟩]) else .done st.out := by
  unfold deliverAll callBack
  split
  · simp only [h]; rfl
  · rfl

/-- the header read at a loop head: the next 8 bytes, or all that is left -/
structure HdrRead (st : St) (r1 : RU) (sz : Nat) (ty : List Byte) : Prop where
  content : r1.st.content = st.content ++ st.rd.rest.take 8
  rest : r1.st.rd.rest = st.rd.rest.drop 8
  nofail : r1.st.rd.failRead = none
  frame : r1.st = { st with content := r1.st.content, rd := r1.st.rd }
  notFail : r1.err ≠ .fail
  reached : r1.err = .none ↔ 8 ≤ st.rd.rest.length
  size : hdrSize r1.st = sz
  type : hdrType r1.st = ty
  ok : sizeOk r1.st = (decide (8 ≤ sz) && decide (st.content.length + sz < U32))

theorem hdrRead_exact {st : St} (h : LH st) {r1 : RU} (e1 : r1 = readUntil (st.rd.rest.length + 1) st (st.next + 8)) :
    HdrRead st r1 (be32 (st.rd.rest.take 4)) ((st.rd.rest.take 8).drop 4) := by
  subst e1
  have R := readUntil_exact _ st (st.next + 8) h.nofail (Nat.lt_succ_self _) (by rw [h.next]; omega)
  have e8 : st.next + 8 - st.content.length = 8 := by rw [h.next]; omega
  have hc := R.content
  rw [e8] at hc
  have hd : (readUntil (st.rd.rest.length + 1) st (st.next + 8)).st.content.drop
      (readUntil (st.rd.rest.length + 1) st (st.next + 8)).st.next = st.rd.rest.take 8 := by
    rw [hc, R.next, h.next, List.drop_left]
  have hs : hdrSize (readUntil (st.rd.rest.length + 1) st (st.next + 8)).st = be32 (st.rd.rest.take 4) := by
    unfold hdrSize; rw [hd, List.take_take, List.take_take]; rfl
  exact {
    content := hc
    rest := by rw [R.rest, e8]
    nofail := R.nofail
    frame := (readUntil_spec ..).frame
    notFail := R.notFail
    reached := by rw [R.reached, h.next]; omega
    size := hs
    type := by unfold hdrType; rw [hd, List.take_take]; rfl
    ok := by unfold sizeOk; rw [hs, R.next, h.next] }

/-- header read, header step and body read at a loop head, for a complete header with a size that is accepted:
the whole box (`size` bytes from the header on), or all that is left.  Three fields change besides buffer and reader,
so the fields that stay are listed one by one (there is no `frame` equation as in `HdrRead`). -/
structure BoxRead (st : St) (r3 : RU) (size : Nat) (typ : List Byte) : Prop where
  content : r3.st.content = st.content ++ st.rd.rest.take size
  rest : r3.st.rd.rest = st.rd.rest.drop size
  nofail : r3.st.rd.failRead = none
  out : r3.st.out = st.out
  next : r3.st.next = st.content.length + size
  mdatEnd : r3.st.mdatEnd = if typ == mdatTag then st.content.length + size else 0
  start : r3.st.start = st.start
  isInit : r3.st.isInit = (st.isInit || typ == moovTag)
  failCb : r3.st.failCb = none
  notFail : r3.err ≠ .fail
  reached : r3.err = .none ↔ size ≤ st.rd.rest.length
  long : 8 ≤ st.rd.rest.length
  big : 8 ≤ size
  ok : (decide (8 ≤ size) && decide (st.content.length + size < U32)) = true

theorem boxRead_exact {st : St} (h : LH st) {r1 r3 : RU} (e1 : r1 = readUntil (st.rd.rest.length + 1) st (st.next + 8))
    (h1 : r1.err = .none) (hs : ¬(!sizeOk r1.st) = true)
    (e3 : r3 = readUntil ((hdrStep r1.st).rd.rest.length + 1) (hdrStep r1.st) (hdrStep r1.st).next) :
    BoxRead st r3 (be32 (st.rd.rest.take 4)) ((st.rd.rest.take 8).drop 4) := by
  have H := hdrRead_exact h e1
  clear e1; subst e3
  have h8 := H.reached.mp h1
  have ok : sizeOk r1.st = true := by simpa using hs
  have hs8 := sizeOk_ge hs
  rw [H.ok] at ok
  -- size and type go back to `hdrSize r1.st` and `hdrType r1.st`, the form in which `hdrStep` has them
  rw [← H.size] at ok ⊢
  rw [← H.type]
  have n1 : r1.st.next = st.content.length := by rw [H.frame]; exact h.next
  have cl : r1.st.content.length = st.content.length + 8 := by
    rw [H.content, List.length_append, List.length_take, Nat.min_eq_left h8]
  have R := readUntil_exact _ (hdrStep r1.st) (hdrStep r1.st).next H.nofail (Nat.lt_succ_self _)
    (by rw [hdrStep_next, hdrStep_content, n1, cl]; omega)
  have e : (hdrStep r1.st).next - (hdrStep r1.st).content.length = hdrSize r1.st - 8 := by
    rw [hdrStep_next, hdrStep_content, n1, cl]; omega
  have hsz : hdrSize r1.st = 8 + (hdrSize r1.st - 8) := by omega
  exact {
    content := by
      rw [R.content, e, hdrStep_content, hdrStep_rd, H.content, H.rest, List.append_assoc]
      conv => rhs; rw [hsz, List.take_add]
    rest := by rw [R.rest, e, hdrStep_rd, H.rest, List.drop_drop, ← hsz]
    nofail := R.nofail
    out := by rw [R.out, hdrStep_out, H.frame]
    next := by rw [R.next, hdrStep_next, n1]
    mdatEnd := by
      rw [R.mdatEnd]
      show (if hdrType r1.st == mdatTag then r1.st.next + hdrSize r1.st else r1.st.mdatEnd) = _
      rw [n1, H.frame, h.mdat]
    start := by rw [R.start]; show r1.st.start = _; rw [H.frame]
    isInit := by rw [R.isInit]; show (r1.st.isInit || hdrType r1.st == moovTag) = _; rw [H.frame]
    failCb := by rw [R.failCb]; show r1.st.failCb = _; rw [H.frame]; exact h.nocb
    notFail := R.notFail
    reached := by rw [R.reached, hdrStep_next, hdrStep_content, hdrStep_rd, n1, cl, H.rest, List.length_drop]; omega
    long := h8
    big := hs8
    ok := ok }

theorem parse_eq_spec (fuel : Nat) (st : St) (h : LH st) :
    (parse fuel st).toS = specGo fuel st.rd.rest st.content st.start st.isInit st.out := by
  fun_induction parse fuel st with
  | case1 st => rfl   -- no fuel
  | case2 fuel st r1 h1 => exact absurd h1 (hdrRead_exact h rfl).notFail   -- header read fails: not without injection
  | case3 fuel st r1 h1 =>   -- fewer than 8 bytes left
    have H := hdrRead_exact h (r1 := r1) rfl
    clear_value r1
    have hshort : st.rd.rest.length < 8 := Nat.lt_of_not_le (mt H.reached.mpr (ne_none_of_eq_eof h1))
    rw [deliverAll_nocb _ (by rw [H.frame]; exact h.nocb), H.content, List.take_of_length_le (Nat.le_of_lt hshort),
      specGo, if_pos hshort, H.frame]
  | case4 fuel st r1 h1 hs =>   -- size refused
    have H := hdrRead_exact h (r1 := r1) rfl
    clear_value r1
    rw [specGo, if_neg (Nat.not_lt.mpr (H.reached.mp h1))]
    simp only [← H.ok, hs, ↓reduceIte]
    show SRes.badSize r1.st.out = _; rw [H.frame]
  | case5 fuel st r1 h1 hs st2 r3 h3 => exact absurd h3 (boxRead_exact h rfl h1 hs rfl).notFail   -- body read fails
  | case6 fuel st r1 h1 hs st2 r3 h3 f hf =>   -- callback fails
    exact absurd hf (by rw [flush_failed (boxRead_exact h rfl h1 hs rfl).failCb]; exact Bool.noConfusion)
  | case7 fuel st r1 h1 hs st2 r3 h3 f hf he =>   -- the box is truncated
    have B := boxRead_exact h rfl h1 hs (r3 := r3) rfl
    have ef : f = flush r3.st := rfl
    clear_value f r3 st2 r1
    have htr : st.rd.rest.length < be32 (st.rd.rest.take 4) :=
      Nat.lt_of_not_le (mt B.reached.mpr (ne_none_of_eq_eof he))
    have hcl : r3.st.content.length = st.content.length + st.rd.rest.length := by
      rw [B.content, List.length_append, List.take_of_length_le (Nat.le_of_lt htr)]
    have h8 := B.long
    -- a truncated box is not flushed: `mdatEnd` is 0 or lies beyond the end of the buffer
    rw [ef, flush_of_ne (by rw [B.mdatEnd, hcl]; split <;> omega), deliverAll_nocb _ B.failCb, if_pos (by omega),
      B.out, B.start, B.isInit, B.content, List.take_of_length_le (Nat.le_of_lt htr), specGo,
      if_neg (Nat.not_lt.mpr h8)]
    simp only [B.ok, htr, ↓reduceIte, Bool.not_true, Bool.false_eq_true]
  | case8 fuel st r1 h1 hs st2 r3 h3 f hf he ih =>   -- the box is complete: next round
    have B := boxRead_exact h rfl h1 hs (r3 := r3) rfl
    have ef : f = flush r3.st := rfl
    -- from here on the variables are opaque: a unification that has to look through their values evaluates the model
    clear_value f r3 st2 r1
    subst ef
    have hge : be32 (st.rd.rest.take 4) ≤ st.rd.rest.length := B.reached.mp <| by
      cases hr : r3.err with
      | none => rfl
      | eof => exact absurd hr he
      | fail => exact absurd hr h3
    have hcl : r3.st.content.length = st.content.length + be32 (st.rd.rest.take 4) := by
      rw [B.content, List.length_append, List.length_take, Nat.min_eq_left hge]
    rw [specGo, if_neg (Nat.not_lt.mpr B.long)]
    simp only [B.ok, Nat.not_lt.mpr hge, ↓reduceIte, Bool.not_true, Bool.false_eq_true]
    by_cases hmd : ((st.rd.rest.take 8).drop 4 == mdatTag) = true
    · -- media data complete: callback and reset
      have ef := flush_of_eq (st := r3.st) (by rw [B.mdatEnd, if_pos hmd, hcl])
      have lh : LH (flush r3.st).st := by
        rw [ef]
        exact { nofail := B.nofail, nocb := by show decr r3.st.failCb = none; rw [B.failCb]; rfl,
                next := by show r3.st.next - r3.st.content.length = 0; rw [B.next, hcl, Nat.sub_self], mdat := rfl }
      rw [if_pos hmd, ih lh, ef]
      show specGo fuel r3.st.rd.rest [] ((r3.st.start + r3.st.content.length) % U32) r3.st.isInit
        (r3.st.out ++ [⟨r3.st.start, r3.st.isInit, r3.st.content⟩]) = _
      rw [B.rest, B.start, hcl, B.isInit, B.out, B.content]
    · -- another box: keep collecting
      have ef := flush_of_ne (st := r3.st) (by have := B.big; rw [B.mdatEnd, if_neg hmd, hcl]; omega)
      have lh : LH (flush r3.st).st := by
        rw [ef]
        exact { nofail := B.nofail, nocb := B.failCb, next := by rw [B.next, hcl], mdat := by rw [B.mdatEnd, if_neg hmd] }
      rw [if_neg hmd, ih lh, ef]
      show specGo fuel r3.st.rd.rest r3.st.content r3.st.start r3.st.isInit r3.st.out = _
      rw [B.rest, B.content, B.start, B.isInit, B.out]

end CP
