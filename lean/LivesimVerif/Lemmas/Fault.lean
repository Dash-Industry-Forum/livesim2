import LivesimVerif.Model.Fault
/-! Lemmas about the traffic patterns of `Model/Fault.lean`: the cycle duration as a sum, the walk of `stateIn`, what
`parseLoss` accepts. -/
namespace Core

/-- every parsed interval has a positive duration and a real state -/
def GoodItvls (l : List LossItvl) : Prop := ∀ i ∈ l, 0 < i.2 ∧ 1 ≤ i.1 ∧ i.1 ≤ 4

theorem cycleDur_eq_sum (l : List LossItvl) : cycleDur l = (l.map (·.2)).sum := List.sum_eq_foldl_nat.symm

theorem cycleDur_cons (i : LossItvl) (l : List LossItvl) : cycleDur (i :: l) = i.2 + cycleDur l := by
  simp only [cycleDur_eq_sum, List.map_cons, List.sum_cons]

theorem stateIn_append (pre post : List LossItvl) (x : Nat) : stateIn (pre ++ post) (cycleDur pre + x) = stateIn post x := by
  induction pre with
  | nil => simp [cycleDur]
  | cons i t ih =>
    rw [cycleDur_cons, List.cons_append, stateIn, Nat.add_assoc, if_neg (Nat.not_lt.mpr (Nat.le_add_right _ _)),
      Nat.add_sub_cancel_left, ih]

theorem cycleDur_pos {l : List LossItvl} (hne : l ≠ []) (hg : GoodItvls l) : 0 < cycleDur l := by
  cases l with
  | nil => exact absurd rfl hne
  | cons x t => rw [cycleDur_cons]; exact Nat.add_pos_left (hg x List.mem_cons_self).1 _

theorem stateAt_of_pos {l : List LossItvl} (h : 0 < cycleDur l) (nowS : Nat) :
    stateAt l nowS = some (stateIn l (nowS % cycleDur l)) := if_neg (Nat.ne_of_gt h)

theorem GoodItvls.push {acc : List LossItvl} {st dur : Nat} (hacc : GoodItvls acc) (h0 : st ≠ 0) (hst : st ≤ 4)
    (hd : dur ≠ 0) : GoodItvls (acc ++ [(st, dur)]) :=
  List.forall_mem_append.mpr ⟨hacc, List.forall_mem_singleton.mpr ⟨Nat.pos_of_ne_zero hd, Nat.pos_of_ne_zero h0, hst⟩⟩

/-- the hypothesis is the `newSt` of `parseLossAux`, word for word: keep in step with the model -/
theorem lossState_le {c : Char} {n : Nat} (h : (if c = 'u' then some 1 else if c = 'd' then some 2
    else if c = 's' then some 3 else if c = 'h' then some 4 else none) = some n) : n ≤ 4 := by
  grind

theorem parseLossAux_good (cs : List Char) (st dur : Nat) (acc out : List LossItvl)
    (hacc : GoodItvls acc) (hst : st ≤ 4) (h : parseLossAux cs st dur acc = some out) : GoodItvls out := by
  fun_induction parseLossAux cs st dur acc with
  -- rejected: an interval of duration 0 at the end or before a state letter, a duration above the bound, another character
  | case1 | case4 | case7 | case9 => cases h
  -- end of input: the open interval is pushed, or there is none
  | case2 st dur acc h0 hd => cases h; exact hacc.push h0 hst hd
  | case3 => cases h; exact hacc
  -- a state letter: the open interval is pushed, or there is none
  | case5 c rest st dur acc newSt n hn h0 hd ih => exact ih (hacc.push h0 hst hd) (lossState_le hn) h
  | case6 c rest st dur acc newSt n hn h0 ih => exact ih hacc (lossState_le hn) h
  -- a digit
  | case8 c rest st dur acc newSt hn hdig hle ih => exact ih hacc hst h

theorem parseLoss_good {s : String} {l : List LossItvl} (h : parseLoss s = some l) : l ≠ [] ∧ GoodItvls l := by
  revert h
  fun_cases parseLoss s with
  | case1 => nofun
  | case2 hne => exact fun h => ⟨fun e => hne (e ▸ h), parseLossAux_good _ 0 0 [] _ nofun (Nat.zero_le _) h⟩

end Core
