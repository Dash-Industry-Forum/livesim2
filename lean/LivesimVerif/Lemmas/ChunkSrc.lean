import LivesimVerif.Model.ChunkSrc
/-! Lemmas about the chunked-transfer source: every `Read` hands out the next bytes of the stream, in order. -/
namespace ChunkSrc

/-- the writer's next round: the stream is the same, and either a `Write` has been taken from the queue or (`cap > 0`)
there is something to hand out -/
theorem refill_stream (s s' : Src) (ha : s.avail = []) (h : s.refill = some s') :
    s'.stream = s.stream ∧ s'.cap = s.cap ∧ s'.queue.length ≤ s.queue.length ∧
      (0 < s.cap → s'.avail = [] → s'.queue.length < s.queue.length) := by
  revert h
  fun_cases Src.refill s with
  | case1 => nofun
  | case2 hc w q hq =>
    rintro ⟨⟩
    simp [Src.stream, ha, hc, hq, List.take_append_drop]
  | case3 x c hc =>
    rintro ⟨⟩
    refine ⟨?_, rfl, Nat.le_refl _, fun hcap he => ?_⟩
    · simp only [Src.stream, ha, hc, List.nil_append]
      rw [List.take_append_drop]
    · have := congrArg List.length he
      simp only [List.length_take, List.length_cons, List.length_nil] at this
      omega

theorem refill_none (s : Src) (ha : s.avail = []) (h : s.refill = none) : s.stream = [] := by
  revert h
  fun_cases Src.refill s with
  | case1 hc hq =>
    intro
    simp [Src.stream, ha, hc, hq]
  | case2 | case3 => nofun

/-- one `Read`: the bytes returned are the head of the stream, at most `k` of them, and the rest is still to come;
a `Read` that returns no bytes (`k > 0`, `cap > 0`) has consumed an empty `Write` -/
theorem read_stream (s s' : Src) (k : Nat) (out : List Nat) (h : s.read k = (s', some out)) :
    s.stream = out ++ s'.stream ∧ out.length ≤ k ∧ s'.cap = s.cap ∧ s'.queue.length ≤ s.queue.length ∧
      (0 < k → 0 < s.cap → out = [] → s'.queue.length < s.queue.length) := by
  revert h
  fun_cases Src.read s k with
  | case1 => nofun
  | case2 he r hr =>
    rintro ⟨⟩
    obtain ⟨hs, hc, hq, hq0⟩ := refill_stream s r (by simpa using he) hr
    refine ⟨?_, List.length_take_le .., hc, hq, fun hk hcap ho =>
      hq0 hcap ((List.take_eq_nil_iff.mp ho).resolve_left (Nat.ne_of_gt hk))⟩
    rw [← hs]; simp [Src.stream, List.take_append_drop, ← List.append_assoc]
  | case3 he =>
    rintro ⟨⟩
    refine ⟨?_, List.length_take_le .., rfl, Nat.le_refl _, fun hk _ ho =>
      absurd (List.isEmpty_iff.mpr ((List.take_eq_nil_iff.mp ho).resolve_left (Nat.ne_of_gt hk))) he⟩
    simp [Src.stream, List.take_append_drop, ← List.append_assoc]

/-- `io.EOF` is returned only when nothing is left, and it leaves the source as it is -/
theorem read_eof (s s' : Src) (k : Nat) (h : s.read k = (s', none)) : s.stream = [] ∧ s' = s := by
  revert h
  fun_cases Src.read s k with
  | case1 he hr =>
    rintro ⟨⟩
    exact ⟨refill_none s (by simpa using he) hr, rfl⟩
  | case2 | case3 => nofun

end ChunkSrc
