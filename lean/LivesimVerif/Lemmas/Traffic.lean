import LivesimVerif.Model.Traffic
/-! Lemmas: `strconv.Atoi` reads back what `strconv.Itoa` (decimal digits) wrote. -/
namespace Traffic
open Core

/-- on digits, `digitsVal` is the library's `Nat.ofDigitChars` -/
theorem digitsVal_eq (l : List Char) (acc : Nat) (h : ∀ c ∈ l, c.isDigit = true) :
    Cfg.digitsVal l acc = some (Nat.ofDigitChars 10 l acc) := by
  fun_induction Cfg.digitsVal l acc with
  | case1 => rfl
  | case2 c t acc _ ih => rw [ih fun d hd => h d (List.mem_cons_of_mem _ hd), Nat.ofDigitChars_cons, Nat.mul_comm]
  | case3 c t acc hc => exact absurd (h c List.mem_cons_self) hc

theorem isDigit_toDigits (n : Nat) : ∀ c ∈ Nat.toDigits 10 n, c.isDigit = true :=
  fun _ hc => Nat.isDigit_of_mem_toDigits (by decide) (by decide) hc

/-- `strconv.Atoi` of the decimal digits of `n` is `n` (inside int64) -/
theorem atoiL_toDigits (n : Nat) (h : n ≤ 9223372036854775807) : Cfg.atoiL (Nat.toDigits 10 n) = some (n : Int) := by
  have hv := digitsVal_eq _ 0 (isDigit_toDigits n)
  rw [Nat.ofDigitChars_ten_toDigits] at hv
  cases hct : Nat.toDigits 10 n with
  | nil => exact absurd hct Nat.toDigits_ne_nil
  | cons c t =>
    have hc : c.isDigit = true := isDigit_toDigits n c (by simp [hct])
    rw [hct] at hv
    unfold Cfg.atoiL
    split
    next neg ds heq =>
      split at heq
      · next hpat => cases hpat; exact absurd hc (by decide)
      · next hpat => cases hpat; exact absurd hc (by decide)
      · cases heq
        simp only [hv, List.cons_ne_nil, if_false, Bool.false_eq_true]
        exact if_neg (by omega)

theorem baseURLDir_no_slash (n : Nat) : ∀ c ∈ baseURLDir n, c ≠ '/' :=
  List.forall_mem_cons.mpr ⟨by decide, List.forall_mem_cons.mpr ⟨by decide,
    fun c hc e => absurd (e ▸ isDigit_toDigits n c hc) (by decide)⟩⟩

end Traffic
