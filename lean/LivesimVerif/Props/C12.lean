import LivesimVerif.Lemmas.Subs
/-!
# C12 — Generated time subtitles show the right UTC second at the right media time

`Subs.calcCueItvls` is `calcCueItvls` on the UTC axis (`u0 = segment start + 1000·startTimeS`, `d` = segment
duration in ms).  For cue durations `0 < cueDur ≤ 1000` it equals the specification `specCues` (one cue per UTC
second whose display interval meets the segment); the clauses of the property are then theorems about `specCues`.
Cue durations above one second are a recorded finding (`c12_long_cues_counterexample`).
-/
namespace Subs

/-- **The code is the specification** for cue durations up to one second, for every segment position. -/
theorem c12_model_eq_spec (u0 d cueDur : Nat) (h0 : 0 < cueDur) (h1 : cueDur ≤ 1000) :
    calcCueItvls u0 d cueDur = some (specCues u0 d cueDur) := by
  unfold calcCueItvls specCues
  -- the loop steps by one second, from the second of the segment start to that of its end
  have hf : (cueDur + 999) / 1000 = 1 := by omega
  have hle : ¬ (u0 + d) / 1000 < u0 / 1000 := Nat.not_lt.mpr (Nat.div_le_div_right (Nat.le_add_right _ _))
  simp only [hf, Nat.one_ne_zero, ↓reduceIte, Nat.one_mul, Nat.mul_one, Nat.div_one, hle, funext (cueOf_eq_specCue _ _ _)]

/-- Every cue lies inside the segment, is non-empty, starts at its UTC second or at the segment start, ends after
the cue duration or at the segment end, and shows that second. -/
theorem c12_cue_inside (u0 d cueDur : Nat) (c : Cue) (h : c ∈ specCues u0 d cueDur) :
    u0 ≤ c.start ∧ c.start < c.stop ∧ c.stop ≤ u0 + d ∧
    c.start = max (c.utcS * 1000) u0 ∧ c.stop = min (c.utcS * 1000 + cueDur) (u0 + d) := by
  obtain ⟨hlt, hc⟩ := specCue_eq_some.mp (specCue_of_mem h)
  rw [hc]
  exact ⟨Nat.le_max_right _ _, hlt, Nat.min_le_right _ _, rfl, rfl⟩

/-- Cues are in the order of their seconds and never overlap. -/
theorem c12_ordered_disjoint (u0 d cueDur : Nat) (h1 : cueDur ≤ 1000) :
    (specCues u0 d cueDur).Pairwise (fun a b => a.utcS < b.utcS ∧ a.stop ≤ b.start) := by
  unfold specCues
  apply List.Pairwise.filterMap (R := (· < ·)) _ _ (List.pairwise_lt_range' ..)
  intro s s' hlt c hc c' hc'
  rw [specCue_utcS hc, specCue_utcS hc']
  exact ⟨hlt, specCue_disjoint h1 hlt hc hc'⟩

/-- the cues showing second `s`: the cue of that second, if its display interval meets the segment -/
theorem filter_utcS (u0 d cueDur : Nat) (h1 : cueDur ≤ 1000) (s : Nat) :
    (specCues u0 d cueDur).filter (·.utcS = s) = (specCue u0 (u0 + d) cueDur s).toList := by
  cases hsp : specCue u0 (u0 + d) cueDur s with
  | none =>
    refine List.filter_eq_nil_iff.mpr fun c hc hs => ?_
    rw [← of_decide_eq_true hs, specCue_of_mem hc] at hsp
    cases hsp
  | some cue =>
    -- the members showing second `s` are equal to the cue, the cue is a member, and no cue occurs twice
    have hiff : ∀ c ∈ specCues u0 d cueDur, c.utcS = s ↔ c = cue := fun c hc =>
      ⟨fun h => Option.some.inj ((specCue_of_mem hc).symm.trans (h ▸ hsp)), fun h => h ▸ specCue_utcS hsp⟩
    have hmem : cue ∈ specCues u0 d cueDur := mem_specCues_of h1 hsp
    have hnd : (specCues u0 d cueDur).Nodup :=
      (c12_ordered_disjoint u0 d cueDur h1).imp (S := (· ≠ ·)) fun h e => Nat.ne_of_lt h.1 (congrArg Cue.utcS e)
    rw [List.filter_congr (q := (· = cue)) fun c hc => decide_eq_decide.mpr (hiff c hc), List.filter_eq, hnd.count,
      if_pos hmem]
    rfl

/-- **Exactly one cue per UTC second** whose display interval `[1000s, 1000s+cueDur)` meets the segment — and
none for any other second. -/
theorem c12_one_per_second (u0 d cueDur : Nat) (h1 : cueDur ≤ 1000) (s : Nat) :
    (max (s * 1000) u0 < min (s * 1000 + cueDur) (u0 + d) →
      (specCues u0 d cueDur).filter (·.utcS = s) = [⟨max (s * 1000) u0, min (s * 1000 + cueDur) (u0 + d), s⟩]) ∧
    (¬ max (s * 1000) u0 < min (s * 1000 + cueDur) (u0 + d) →
      (specCues u0 d cueDur).filter (·.utcS = s) = []) := by
  rw [filter_utcS u0 d cueDur h1, specCue]
  exact ⟨fun h => by rw [if_pos h]; rfl, fun h => by rw [if_neg h]; rfl⟩

/-- **wvtt samples tile the segment exactly**: they are contiguous from the segment start to the segment end
(cue samples at the cue intervals, `vtte` fillers elsewhere). -/
theorem c12_wvtt_tiles (u0 d cueDur : Nat) (h1 : cueDur ≤ 1000) :
    chainEnd (wvttSamples (specCues u0 d cueDur) u0 d) u0 = some (u0 + d) :=
  wvttSamples_tile _ u0 d
    (fun c hc => have h := c12_cue_inside u0 d cueDur c hc; ⟨h.1, Nat.le_of_lt h.2.1, h.2.2.1⟩)
    ((c12_ordered_disjoint u0 d cueDur h1).imp And.right)

/-- `msToTTMLTime`: the printed fields recombine to the input and are in range. -/
theorem c12_ttml_time (ms : Nat) :
    let f := ttmlFields ms
    f.1 * 3600000 + f.2.1 * 60000 + f.2.2.1 * 1000 + f.2.2.2 = ms ∧ f.2.1 < 60 ∧ f.2.2.1 < 60 ∧ f.2.2.2 < 1000 := by
  simp only [ttmlFields]; omega

/-- **Finding** (cue durations above one second): there is only one cue every `ceil(cueDur/1000)` seconds (the
repository's own test `TestCalcCueItvls/long_cue` fixes this design).  Segment `[98 s, 100 s)`, `timesubsdur_1500`: a
single cue showing second 98; second 99 intersects the segment but has no cue, so "exactly one cue for each UTC second"
does not hold for such durations.  (Before the `fix:` commit the loop mixed units and this segment had no cue at all.) -/
theorem c12_long_cues_counterexample :
    calcCueItvls 98000 2000 1500 = some [⟨98000, 99500, 98⟩] ∧
    (specCues 98000 2000 1000).map (·.utcS) = [98, 99] := by decide

/-- non-vacuity: segment [12.9 s, 14.9 s), cue 800 ms: the cue of second 12 ended before the segment (skipped),
seconds 13 and 14 are shown. -/
example : calcCueItvls 12900 2000 800 = some [⟨13000, 13800, 13⟩, ⟨14000, 14800, 14⟩] := by decide
example : calcCueItvls 0 1000 0 = none := by decide

end Subs
