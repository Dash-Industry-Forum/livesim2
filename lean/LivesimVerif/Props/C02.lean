import LivesimVerif.Lemmas.Mpd
import LivesimVerif.Lemmas.Trans
import LivesimVerif.Props.C04
/-!
# C02 — The live MPD and the segment server agree on what is available

`genTimeline` models `generateTimelineEntries` (with the `fix:` commits: one floor conversion, carry into the next
loop), `checkTime` the segment handler's availability test.  Hypotheses: `Contig r`, `Closes a r` (C01) and
`a.loopMS * r.T = 1000 * r.dur` (what `consolidateAsset` admits).  `x = nowMS − 1000·startS`.
The last listed entry is the newest ended segment (`c02_last_entry_newest_ended`); the first listed entry is not yet
Gone when no segment is longer than the handler's 10 s margin (`c02_first_entry_not_gone`), and the hypothesis is
needed: `c02_first_entry_gone_counterexample` is known finding F-C02-1 (12 s segments), decided in the model and
reproduced on the implementation by the monitor.
-/
namespace Core

/-- The SegmentTimeline is contiguous: every entry starts where the previous one ends. -/
theorem c02_timeline_contiguous (r : Rep) (first count t i : Nat) (hi : i + 1 < (listFrom r first count t).length) :
    ((listFrom r first count t).getD (i+1) (0,0)).1 =
      ((listFrom r first count t).getD i (0,0)).1 + ((listFrom r first count t).getD i (0,0)).2 :=
  (listFrom_contigFrom r first count t).getD_succ i hi

/-- The listed entries are exactly the output segments `first … first+count−1` of the looped timeline: the j-th
entry has the decode time `S (first+j)` and the duration of its VoD source — the values the segment handler
returns for these segments (C01). -/
theorem c02_entries_are_segments (a : Asset) (r : Rep) (h : Contig r) (hc : Closes a r) (first count : Nat) :
    listFrom r first count (S a r first) = (List.range' first count).map (fun k => (S a r k, segDur r k)) :=
  listFrom_spec a r h hc first count

/-! ### from ticks to the handler's exact comparison

`τ = ⌊(x + ato)·T/1000⌋` with `x = now − 1000·startS` is the instant the edge search works with; the handler compares
`now·T` with `1000·avail − ato·T`. -/

/-- The tick instant against the handler's scaled instants.  The equation is written with exactly the products that
`checkTime` compares once `nowScaled` / `availScaled` are unfolded (`now * T`, `ato * T`, `s * T`): `omega` takes a
product of variables as an atom, so `tooEarly_iff_tick` and `gone_iff_tick` close by `omega` only while this `key`
speaks of the atoms of their goals. -/
theorem scaled_shift (now s ato T : Nat) (hs : s * 1000 ≤ now) :
    (now - s * 1000 + ato) * T + 1000 * (s * T) = now * T + ato * T := by
  have h1 : now - s * 1000 + ato + s * 1000 = now + ato := by rw [Nat.add_right_comm, Nat.sub_add_cancel hs]
  rw [← Nat.add_mul, ← h1, Nat.add_mul _ (s * 1000), Nat.mul_right_comm s, Nat.mul_comm (s * T)]

/-- the handler refuses the segment ending at tick `e` as too early exactly while `τ < e` -/
theorem tooEarly_iff_tick (e startS T nowMS tsbdS atoMS : Nat) (hnow : startS * 1000 ≤ nowMS) :
    phase (checkTime (e + startS * T) T nowMS tsbdS (.ms atoMS)) = 0 ↔
      (nowMS - startS * 1000 + atoMS) * T / 1000 < e := by
  have key := scaled_shift nowMS startS atoMS T hnow
  rw [c04_too_early_iff, Nat.div_lt_iff_lt_mul (by decide)]
  unfold nowScaled availScaled
  omega

/-- … and answers Gone exactly when it ended more than the window `tsbd + margin` before the instant -/
theorem gone_iff_tick (e startS T nowMS tsbdS atoMS : Nat) (hnow : startS * 1000 ≤ nowMS) :
    checkTime (e + startS * T) T nowMS tsbdS (.ms atoMS) = .gone ↔
      (e + (tsbdS + marginS) * T) * 1000 < (nowMS - startS * 1000 + atoMS) * T := by
  have key := scaled_shift nowMS startS atoMS T hnow
  rw [c04_gone_iff]
  unfold nowScaled availScaled windowScaled
  rw [Int.mul_right_comm, ← Int.natCast_mul (tsbdS + marginS)]
  omega

/-- `k` is the newest segment ended at `τ`: the handler serves (or has served) `k` and refuses `k+1` with 425 -/
theorem NewestEnded.phases {a : Asset} {r : Rep} {startS nowMS atoMS k : Nat} (tsbdS : Nat)
    (hnow : startS * 1000 ≤ nowMS) (hk : NewestEnded a r ((nowMS - startS * 1000 + atoMS) * r.T / 1000) (some k)) :
    phase (checkTime (E a r k + startS * r.T) r.T nowMS tsbdS (.ms atoMS)) ≥ 1 ∧
    phase (checkTime (E a r (k + 1) + startS * r.T) r.T nowMS tsbdS (.ms atoMS)) = 0 :=
  ⟨Nat.pos_of_ne_zero fun h0 => Nat.not_lt.mpr hk.1 ((tooEarly_iff_tick _ _ _ _ tsbdS _ hnow).mp h0),
    (tooEarly_iff_tick _ _ _ _ tsbdS _ hnow).mpr hk.2⟩

/-- **The MPD's live edge is the segment handler's live edge.**  If the edge search returns segment `k` for the
instant `x` ms after stream start and offset `atoMS`, then segment `k` is *not too early* for the handler at that
instant and segment `k+1` *is* too early: the last SegmentTimeline entry is the newest segment that has ended (less
availabilityTimeOffset), and the one just after it is refused with 425. -/
theorem c02_edge_matches_server (a : Asset) (r : Rep) (h : Contig r) (hc : Closes a r)
    (hadm : a.loopMS * r.T = 1000 * r.dur) (hl : 0 < a.loopMS)
    (startS nowMS tsbdS atoMS : Nat) (hnow : startS * 1000 ≤ nowMS) (w' i : Nat)
    (he : let x := nowMS - startS * 1000
          let relNow := (x % a.loopMS + atoMS) * r.T / 1000
          edgeIdx r (x / a.loopMS + relNow / r.dur) (relNow % r.dur) = some (w', i)) :
    phase (checkTime (E a r (r.N * w' + i) + startS * r.T) r.T nowMS tsbdS (.ms atoMS)) ≥ 1 ∧
    phase (checkTime (E a r (r.N * w' + i + 1) + startS * r.T) r.T nowMS tsbdS (.ms atoMS)) = 0 := by
  have sp := (edgeIdx_at a r h hc hadm (nowMS - startS * 1000) atoMS).1
  rw [he] at sp
  exact sp.phases tsbdS hnow

/-- **The last SegmentTimeline entry is the newest segment that has ended (less availabilityTimeOffset)** — stated on
what `generateTimelineEntries` returns, not only on its edge search: either nothing is listed and the handler refuses
even segment 0 as too early, or the list is not empty, its last number `startNr + length − 1` is a segment the handler
does not refuse as too early, and the next number is refused with 425. -/
theorem c02_last_entry_newest_ended (a : Asset) (r : Rep) (h : Contig r) (hc : Closes a r)
    (hadm : a.loopMS * r.T = 1000 * r.dur) (hl : 0 < a.loopMS)
    (startS nowMS tsbdS atoMS : Nat) (hnow : startS * 1000 ≤ nowMS) :
    ((genTimeline r (calcWrapTimes a startS nowMS tsbdS) atoMS).entries = [] ∧
      phase (checkTime (E a r 0 + startS * r.T) r.T nowMS tsbdS (.ms atoMS)) = 0) ∨
    (∃ k : Nat, (genTimeline r (calcWrapTimes a startS nowMS tsbdS) atoMS).startNr +
        ((genTimeline r (calcWrapTimes a startS nowMS tsbdS) atoMS).entries.length : Int) - 1 = (k : Int) ∧
      (genTimeline r (calcWrapTimes a startS nowMS tsbdS) atoMS).entries ≠ [] ∧
      phase (checkTime (E a r k + startS * r.T) r.T nowMS tsbdS (.ms atoMS)) ≥ 1 ∧
      phase (checkTime (E a r (k + 1) + startS * r.T) r.T nowMS tsbdS (.ms atoMS)) = 0) := by
  rcases genTimeline_last a r h hc hadm hl startS nowMS tsbdS atoMS hnow with ⟨_, he, ht⟩ | ⟨k, hk, _, hne, h1, h2⟩
  · exact Or.inl ⟨he, (tooEarly_iff_tick _ _ _ _ _ _ hnow).mpr ht⟩
  · exact Or.inr ⟨k, hk, hne, NewestEnded.phases tsbdS hnow ⟨h1, h2⟩⟩

/-- a segment that ends at `e`, less than `D ≤ margin` ticks after the start `xs` of the window, is inside the handler's
window `tsbd + margin` at `now ≤ xs + tsbd` -/
theorem first_bound (now xs tsbd startS ato T e D : Nat) (h1 : now ≤ xs + tsbd * 1000 + startS * 1000)
    (h2 : (xs + ato) * T / 1000 < e + D) (hD : D ≤ marginS * T) :
    ¬ (e + (tsbd + marginS) * T) * 1000 < (now - startS * 1000 + ato) * T := by
  rw [Nat.div_lt_iff_lt_mul (by decide)] at h2
  -- now·T ≤ (xs + ato)·T + tsbd·T·1000 < (e + D)·1000 + tsbd·T·1000 ≤ (e + (tsbd + margin)·T)·1000
  have h3 : now - startS * 1000 + ato ≤ xs + ato + tsbd * 1000 := by
    rw [Nat.add_right_comm xs]; exact Nat.add_le_add_right (Nat.sub_le_iff_le_add.mpr h1) _
  refine Nat.not_lt.mpr (Nat.le_trans (Nat.mul_le_mul_right T h3) ?_)
  rw [Nat.add_mul (xs + ato), Nat.mul_right_comm tsbd, Nat.add_mul tsbd]
  refine Nat.le_trans (Nat.add_le_add_right (Nat.le_of_lt h2) _) ?_
  rw [← Nat.add_mul, Nat.add_assoc, Nat.add_comm D]
  exact Nat.mul_le_mul_right _ (Nat.add_le_add_left (Nat.add_le_add_left hD _) _)

/-- **The first SegmentTimeline entry is not older than the time-shift window allows**: when no segment of the
representation is longer than the handler's margin (`timeShiftBufferDepthMarginS` = 10 s), the first listed number is a
segment the handler does not answer with 410 at that instant.  (For longer segments the statement is false: known
finding F-C02-1, 12 s segments.) -/
theorem c02_first_entry_not_gone (a : Asset) (r : Rep) (h : Contig r) (hc : Closes a r)
    (hadm : a.loopMS * r.T = 1000 * r.dur) (hl : 0 < a.loopMS)
    (startS nowMS tsbdS atoMS : Nat) (hnow : startS * 1000 ≤ nowMS)
    (hdur : ∀ k, segDur r k ≤ marginS * r.T)
    (hne : (genTimeline r (calcWrapTimes a startS nowMS tsbdS) atoMS).entries ≠ []) :
    ∃ s : Nat, (genTimeline r (calcWrapTimes a startS nowMS tsbdS) atoMS).startNr = (s : Int) ∧
      checkTime (E a r s + startS * r.T) r.T nowMS tsbdS (.ms atoMS) ≠ .gone := by
  obtain ⟨s, xs, hs, hlo, hedge⟩ := genTimeline_first a r h hc hadm hl startS nowMS tsbdS atoMS hnow hne
  refine ⟨s, hs, ?_⟩
  rw [Ne, gone_iff_tick _ _ _ _ _ _ hnow]
  rcases hedge with ⟨h0, rfl⟩ | ⟨_, h2⟩
  · exact first_bound nowMS xs tsbdS startS atoMS r.T (E a r 0) 0 hlo h0 (Nat.zero_le _)
  · rw [E_succ a r h hc s] at h2
    exact first_bound nowMS xs tsbdS startS atoMS r.T (E a r s) _ hlo h2 (hdur (s + 1))

/-- a representation with 12 s segments (the generated asset `gen_12s`: 25 Hz, two segments of 300 ticks) -/
def ex12Rep : Rep where
  id := "V"
  kind := .video
  T := 25
  segs := [⟨0, 300, 1⟩, ⟨300, 600, 2⟩]
  constSampleDur := 1
  sampleDur := 1
  preEnc := false
  stpp := false

def ex12Asset : Asset where
  name := "gen_12s"
  loopMS := 24000
  segDurMS := 12000
  refId := "V"
  reps := [ex12Rep]

/-- **The hypothesis of `c02_first_entry_not_gone` is needed** (known finding F-C02-1): with 12 s segments, at
131.9 s with a 60 s window the first listed number is 4 — the segment [48 s, 60 s) — which the handler answers with
410 (it ended more than 60 + 10 s ago), while the next segment has not ended at the window start 71.9 s. -/
theorem c02_first_entry_gone_counterexample :
    (genTimeline ex12Rep (calcWrapTimes ex12Asset 0 131900 60) 0).startNr = 4 ∧
    checkTime (E ex12Asset ex12Rep 4 + 0 * ex12Rep.T) ex12Rep.T 131900 60 (.ms 0) = .gone := by decide

/-- non-vacuity: testpic_2s V300 at 100.3 s after start, no offset: the edge search returns segment 49
(`w' = 12, i = 1`): `[98 s, 100 s)` has ended, `[100 s, 102 s)` has not. -/
example : edgeIdx exRep (100300 / 8000) ((100300 % 8000) * 90000 / 1000 % 720000) = some (12, 1) := by decide

/-! ## Implicit timelines: `SegmentTemplate@duration` + `startNumber` -/

/-- every segment of the table has the duration `d` -/
def Uniform (r : Rep) (d : Nat) : Prop := ∀ i, i < r.N → (r.seg i).stop = (r.seg i).start + d

/-- **A duration template describes the served segments exactly** when all segments have the same duration `d`: the
`k`-th segment of the looped stream (number `startNumber + k` in the MPD) starts at `k·d` and ends at `(k+1)·d` on the
media timeline — the times a DASH client derives from `@duration`, `@startNumber` and the number — for every `k`, across
every loop wrap. -/
theorem c02_template_uniform (a : Asset) (r : Rep) (d : Nat) (h : Contig r) (hc : Closes a r) (hu : Uniform r d) (k : Nat) :
    S a r k = k * d ∧ E a r k = (k + 1) * d := by
  -- every output segment lasts `d`, the first starts at 0, each next one where the one before ends
  have hd : ∀ k, segDur r k = d := fun k => by
    unfold segDur; rw [hu _ (Nat.mod_lt _ h.1), Nat.add_sub_cancel_left]
  have hS : ∀ k, S a r k = k * d := by
    intro k
    induction k with
    | zero => rw [S_zero a r hc, Nat.zero_mul]
    | succ k ih => rw [S_succ a r h hc, E_eq_S_add a r h, ih, hd, Nat.succ_mul]
  exact ⟨hS k, by rw [E_eq_S_add a r h, hS, hd, Nat.succ_mul]⟩

/-- non-vacuity: `testpic_2s` video (4 segments of 180000 ticks, loop 8 s): segment 17 spans [17, 18)·180000 -/
example : S exAsset exRep 17 = 17 * 180000 ∧ E exAsset exRep 17 = 18 * 180000 := by decide

/-- **tie by translation**: `splitLoops` / `floorDiv`, translated from the current source (`Gen/Trans.lean`, regenerated
on every run), are the whole loops and the rest that `genTimeline` carries into its wrap counts (`rel / dur`, `rel % dur`;
everything stays in the rest for a loop of duration 0) -/
theorem c02_trans_splitLoops (rel L : Nat) :
    Gen.Trans.splitLoops (rel : Int) (L : Int) =
      if L = 0 then ((0 : Int), (rel : Int)) else (((rel / L : Nat) : Int), ((rel % L : Nat) : Int)) :=
  TransTie.splitLoops_eq rel L

theorem c02_trans_floorDiv (n d : Int) (hd : 0 < d) : Gen.Trans.floorDiv n d = n / d := TransTie.floorDiv_eq n d hd

end Core
