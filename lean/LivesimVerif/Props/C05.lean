import LivesimVerif.Model.Mpd
import LivesimVerif.Lemmas.Core
/-!
# C05 — The MPD only moves forward, and publishTime identifies its content

Edge monotonicity / uniqueness are theorems about the characterisation `E k ≤ τ < E (k+1)` of the listed edge
(`edgeIdx_spec`, `Lemmas/Mpd.lean`; `edge_mono`, `Lemmas/Core.lean`) and hold for every table, loop count and pair of instants.  The clause "same publishTime ⇒ same
content" did not hold for the code of the previous round (the first entry leaves the window at other instants than the last
one enters, F-C05-1); after the repair it is `c05_publish_identifies` below.
-/
namespace Core

/-- **The listed edge is determined by the instant** (it is *the* newest ended segment): two indices that both
satisfy `E k ≤ τ < E (k+1)` are equal.  Hence the edge is `k` exactly while `avail k ≤ now < avail (k+1)`: it
advances by one segment at the instant that segment becomes available. -/
theorem c05_edge_unique (a : Asset) (r : Rep) (h : Contig r) (hc : Closes a r) (τ k k' : Nat)
    (h1 : E a r k ≤ τ ∧ τ < E a r (k + 1)) (h2 : E a r k' ≤ τ ∧ τ < E a r (k' + 1)) : k = k' :=
  Nat.le_antisymm (edge_mono a r h hc (Nat.le_refl τ) h1.1 h2.2) (edge_mono a r h hc (Nat.le_refl τ) h2.1 h1.2)

/-- **The edge never moves backwards**: a later instant (more elapsed ticks) lists an edge that is not older. -/
theorem c05_edges_monotone (a : Asset) (r : Rep) (h : Contig r) (hc : Closes a r) (τ₁ τ₂ k₁ k₂ : Nat) (hτ : τ₁ ≤ τ₂)
    (h1 : E a r k₁ ≤ τ₁ ∧ τ₁ < E a r (k₁ + 1)) (h2 : E a r k₂ ≤ τ₂ ∧ τ₂ < E a r (k₂ + 1)) : k₁ ≤ k₂ :=
  edge_mono a r h hc hτ h1.1 h2.2

theorem ceil_le (A T X : Nat) (h : A ≤ X * T) : (A + T - 1) / T ≤ X := by
  by_cases hT : T = 0
  · subst hT; simp
  · have : A + T - 1 < T * (X + 1) := by
      rw [Nat.mul_add, Nat.mul_one, Nat.mul_comm T X]; omega
    exact Nat.le_of_lt_succ (Nat.div_lt_of_lt_mul this)

/-- with a segment listed: the first whole millisecond at which it has ended, plus the stream start, less the offset,
not before the stream start -/
theorem lastSegAvailMS_listed (startS atoMS T : Nat) {lsi : LastSeg} (hn : 0 ≤ lsi.nr) :
    lastSegAvailMS startS atoMS T lsi =
      max (startS * 1000) (((lsi.start + lsi.dur) * 1000 + T - 1) / T + startS * 1000 - atoMS) :=
  if_neg (Int.not_lt.mpr hn)

/-- **publishTime is never later than the request instant**: the first whole millisecond at which the last listed
segment has ended, less the offset, plus the stream start, is ≤ now whenever that segment has ended (less the
offset) at now — which is what the edge search guarantees (`c02_edge_matches_server`). -/
theorem c05_pt_le_now (startS nowMS atoMS T : Nat) (lsi : LastSeg) (hnow : startS * 1000 ≤ nowMS)
    (hended : (lsi.start + lsi.dur) * 1000 ≤ (nowMS - startS * 1000 + atoMS) * T) :
    lastSegAvailMS startS atoMS T lsi ≤ nowMS := by
  fun_cases lastSegAvailMS startS atoMS T lsi with
  | case1 => exact hnow
  | case2 =>
    have hceil := ceil_le _ T _ hended
    exact Nat.max_le.mpr ⟨hnow, by omega⟩

/-- publishTime is not before the stream start. -/
theorem c05_pt_ge_start (startS atoMS T : Nat) (lsi : LastSeg) : startS * 1000 ≤ lastSegAvailMS startS atoMS T lsi := by
  fun_cases lastSegAvailMS startS atoMS T lsi with
  | case1 => exact Nat.le_refl _
  | case2 => exact Nat.le_max_left _ _

/-- publishTime does not decrease when the listed edge does not move back (later end ⇒ later publishTime). -/
theorem c05_pt_monotone (startS atoMS T : Nat) (l₁ l₂ : LastSeg) (hn₁ : 0 ≤ l₁.nr) (hn₂ : 0 ≤ l₂.nr)
    (h : l₁.start + l₁.dur ≤ l₂.start + l₂.dur) :
    lastSegAvailMS startS atoMS T l₁ ≤ lastSegAvailMS startS atoMS T l₂ := by
  rw [lastSegAvailMS_listed startS atoMS T hn₁, lastSegAvailMS_listed startS atoMS T hn₂]
  refine Nat.max_le.mpr ⟨Nat.le_max_left _ _, Nat.le_trans ?_ (Nat.le_max_right _ _)⟩
  -- every operation from the segment end to the instant is monotone
  exact Nat.sub_le_sub_right (Nat.add_le_add_right (Nat.div_le_div_right
    (Nat.sub_le_sub_right (Nat.add_le_add_right (Nat.mul_le_mul_right _ h) _) _)) _) _

/-! ### publishTime with both ends of the timeline (`calcPublishTimeMS`, `fix:` commit) -/

theorem firstChange_le_now (startS atoMS tsbdMS nowMS T : Nat) (f : Nat × Nat) (hnow : startS * 1000 ≤ nowMS) :
    firstChangeMS startS atoMS tsbdMS nowMS T f ≤ nowMS := by
  fun_cases firstChangeMS startS atoMS tsbdMS nowMS T f with
  | case1 t ht => exact ht
  | case2 => exact hnow

/-- **publishTime (both ends) is never later than the request instant.** -/
theorem c05_publish_le_now (startS nowMS atoMS tsbdMS T : Nat) (startNr : Int) (lsi : LastSeg) (entries : List (Nat × Nat))
    (hnow : startS * 1000 ≤ nowMS) (hended : (lsi.start + lsi.dur) * 1000 ≤ (nowMS - startS * 1000 + atoMS) * T) :
    publishMS startS atoMS tsbdMS nowMS T startNr lsi entries ≤ nowMS := by
  have h1 := c05_pt_le_now startS nowMS atoMS T lsi hnow hended
  fun_cases publishMS startS atoMS tsbdMS nowMS T startNr lsi entries with
  | case1 | case2 => exact h1
  | case3 _ f => exact Nat.max_le.mpr ⟨h1, firstChange_le_now startS atoMS tsbdMS nowMS T f hnow⟩

/-- … and not before the stream start. -/
theorem c05_publish_ge_start (startS nowMS atoMS tsbdMS T : Nat) (startNr : Int) (lsi : LastSeg) (entries : List (Nat × Nat)) :
    startS * 1000 ≤ publishMS startS atoMS tsbdMS nowMS T startNr lsi entries := by
  have h1 := c05_pt_ge_start startS atoMS T lsi
  fun_cases publishMS startS atoMS tsbdMS nowMS T startNr lsi entries with
  | case1 | case2 => exact h1
  | case3 => exact Nat.le_trans h1 (Nat.le_max_left _ _)

/-- **publishTime identifies the content of the timeline.**  Take two instants `now₁ ≤ now₂`; `aL₁, aL₂` are the
availability instants of the last listed segments, `bF₁, bF₂` the instants at which the first listed entries became
first (as `publishMS` computes them).  What the edge search guarantees (`c05_edge_unique`, `c05_edges_monotone` for the
live edge; the same statements with `τ = now − tsbd + ato` for the window start): all four lie at or before their own
request instant, and an end that differs at `now₂` became what it is only after `now₁`.  Then equal publishTimes force
both ends to be equal — the timelines are the same; conversely different timelines have different publishTimes. -/
theorem c05_publish_identifies (now₁ aL₁ aL₂ bF₁ bF₂ : Nat)
    (h1 : aL₁ ≤ now₁) (h2 : bF₁ ≤ now₁)
    (hL : aL₁ ≠ aL₂ → now₁ < aL₂) (hF : bF₁ ≠ bF₂ → now₁ < bF₂)
    (hpt : max aL₁ bF₁ = max aL₂ bF₂) : aL₁ = aL₂ ∧ bF₁ = bF₂ := by
  -- an end that differs became what it is after `now₁`, yet the common publishTime is at most `now₁`
  have hle : max aL₂ bF₂ ≤ now₁ := hpt ▸ Nat.max_le.mpr ⟨h1, h2⟩
  exact ⟨Decidable.by_contra fun ha => Nat.lt_irrefl _ (Nat.lt_of_lt_of_le (hL ha) (Nat.le_trans (Nat.le_max_left _ _) hle)),
    Decidable.by_contra fun hb => Nat.lt_irrefl _ (Nat.lt_of_lt_of_le (hF hb) (Nat.le_trans (Nat.le_max_right _ _) hle))⟩

/-- the instants in `c05_publish_identifies` are strictly increasing in the segment end they belong to, so "equal
instant" is "equal segment": availability of the segment that ends at tick `e` -/
theorem avail_strict (startS atoMS T e₁ e₂ : Nat) (hT : 0 < T) (hlt : e₁ + T ≤ e₂)
    (hpos : atoMS ≤ (e₁ * 1000 + T - 1) / T) :
    (e₁ * 1000 + T - 1) / T + startS * 1000 - atoMS < (e₂ * 1000 + T - 1) / T + startS * 1000 - atoMS := by
  -- a second more of ticks is 1000 ms more
  have hstep : (e₁ * 1000 + T - 1) / T + 1000 ≤ (e₂ * 1000 + T - 1) / T := by
    rw [← Nat.add_mul_div_right _ _ hT]
    exact Nat.div_le_div_right (by omega)
  exact Nat.sub_lt_sub_right (Nat.le_trans hpos (Nat.le_add_right _ _))
    (Nat.add_lt_add_right (Nat.lt_of_lt_of_le (Nat.lt_add_of_pos_right (by decide)) hstep) _)

/-- non-vacuity: 2 s segments at 90 kHz, tsbd 5 s: at 11.3 s the first entry (ends at 6 s) became first at 11.0 s,
later than the last segment's availability at 10.0 s — the case in which the publishTime used to be stale -/
example : publishMS 0 0 5000 11300 90000 2 ⟨720000, 180000, 4⟩ [(360000, 180000), (540000, 180000), (720000, 180000)] = 11000 ∧
    lastSegAvailMS 0 0 90000 ⟨720000, 180000, 4⟩ = 10000 := by decide

/-- the first segment of the stream never replaced another entry (`fix:` commit 13d0447): while it is the first entry
(`startNr = 0`) only the last segment's availability counts — 2.002 s segments at 30 kHz, start 61 s, tsbd 10 s: at
73.002 s the window start reaches the end of segment 0, the list does not change and neither does publishTime -/
example : publishMS 61 0 10000 73002 30000 0 ⟨300300, 60060, 5⟩ [(0, 60060), (60060, 60060)] =
    lastSegAvailMS 61 0 30000 ⟨300300, 60060, 5⟩ := by decide

/-- After the configured stop time the MPD is static with the duration stop − start. -/
theorem c05_static_after_stop (a : Asset) (sets : List ASDef) (cfg : MpdCfg) (nowMS stop : Nat) (m : MpdOut)
    (hs : cfg.stopS = some stop) (hafter : stop * 1000 < nowMS) (h : liveMpd a sets cfg nowMS = .ok m) :
    m.dynamic = false ∧ m.durS = some (stop - cfg.startS) := by
  revert h
  fun_cases liveMpd a sets cfg nowMS
  -- the two branches that answer, `fin [one period] pt` and `fin ps pt''`; all others are errors
  case case4 | case8 =>
    simp +zetaDelta only [hs, hafter, decide_true, ↓reduceIte, Option.getD_some, MpdRes.ok.injEq]
    rintro rfl
    exact ⟨rfl, rfl⟩
  all_goals nofun

/-- non-vacuity: `testpic_2s`: E is strictly increasing across the wrap (segment 3 ends at 8 s, segment 4 at 10 s) -/
example : E exAsset exRep 3 = 720000 ∧ E exAsset exRep 4 = 900000 := by decide

end Core
