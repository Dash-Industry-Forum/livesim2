import LivesimVerif.Lemmas.Trans
import LivesimVerif.Lemmas.Myers
/-!
# C11 — Applying a served MPD patch to the old MPD yields the new MPD

Proved here: the SegmentTimeline (leaf-list) part.  For every element type, every pair of lists and every edit script
that is *valid* (`Patch.Valid`: deletions/insertions in position order, kept stretches equal), the operations emitted by
the loop of `addLeafListChanges`, applied in order with RFC 5261 semantics, turn the old list into the new list.
Validity of the `MyersDiff` output is a theorem as well: `Model/Myers.lean` models the linear-space Myers search and
the recursion of `diffInternal` statement by statement (tied by the op `myers`, which compares the model's script with
the real one), and `c11_myers_sound` shows that whatever it returns is a valid script — for every pair of lists, from
the equality of the snake the search hands to the recursion and, for the branches taken when `D ≤ 1`, from a symbolic
execution of the first two rounds of the search (`Lemmas/Myers.lean`).  `c11_myers_patch` composes the two.  That
`MyersDiff` returns at all (no index panic, recursion terminates) is not proved; the op `myers` and the fuzzing monitor
observe it.  The run-time certificate `validB` stays in the `leaf` op as a cross-check.  The element-level recursion
(`addElemChanges`, `calcAddr`) and the served patch flow are covered by the harness' own RFC 5261 applier (monitors).
Partial with respect to element addressing and to termination of Myers.
-/
namespace Patch

theorem removeAt_append {α : Type} (A B : List α) (b : α) : removeAt (A ++ b :: B) A.length = some (A ++ B) := by
  simp [removeAt]

/-- the `add` that `addLeafListChanges` emits for an insertion after a prefix `A` of the document -/
theorem applyOp_add {α : Type} (A B : List α) (y : α) :
    applyOp (A ++ B) (if A.length = 0 then .prepend y else .addAfter (A.length - 1) y) = some (A ++ y :: B) := by
  cases A with
  | nil => rfl
  | cons a A => simp [applyOp, insertAt]; omega

/-- the document list can be re-split at the next edit position -/
theorem resplit {α : Type} (xs ys : List α) (i j p : Nat) (hip : i ≤ p) (hp : p ≤ xs.length) (hj : j ≤ ys.length)
    (hk : (xs.drop i).take (p - i) = (ys.drop j).take (p - i)) :
    j + (p - i) ≤ ys.length ∧ ys.take j ++ xs.drop i = ys.take (j + (p - i)) ++ xs.drop p := by
  have hlen := congrArg List.length hk
  simp only [List.length_take, List.length_drop] at hlen
  refine ⟨by omega, ?_⟩
  have hd : xs.drop p = (xs.drop i).drop (p - i) := by rw [List.drop_drop, Nat.add_sub_cancel' hip]
  rw [List.take_add, List.append_assoc, ← hk, hd, List.take_append_drop]

/-- **Leaf-list correctness**: a valid edit script yields operations whose in-order application to the old list
(document state `ys.take j ++ xs.drop i`) produces the new list. -/
theorem c11_leaflist {α : Type} (xs ys : List α) (es : List Edit) (i j : Nat) (hj : j ≤ ys.length)
    (hv : Valid xs ys es i j) :
    ∃ ops, leafOps ys es i j = some ops ∧ applyOps ops (ys.take j ++ xs.drop i) = some ys := by
  fun_induction Valid xs ys es i j with
  | case1 i j => exact ⟨[], rfl, by simp [applyOps, hv]⟩
  | case2 p rest i j ih =>
    obtain ⟨hip, hp, hk, hrest⟩ := hv
    obtain ⟨hj', hsplit⟩ := resplit xs ys i j p hip (Nat.le_of_lt hp) hj hk
    obtain ⟨ops, ho, ha⟩ := ih hj' hrest
    refine ⟨.remove (j + (p - i)) :: ops, by simp [leafOps, Nat.not_lt.mpr hip, ho], ?_⟩
    have := removeAt_append (ys.take (j + (p - i))) (xs.drop (p + 1)) xs[p]
    rw [List.length_take_of_le hj', ← List.drop_eq_getElem_cons hp, ← hsplit] at this
    simp only [applyOps, applyOp, this, Option.bind_some, ha]
  | case3 p q rest i j ih =>
    obtain ⟨hip, hp, rfl, hql, hk, hrest⟩ := hv
    obtain ⟨hj', hsplit⟩ := resplit xs ys i j p hip hp hj hk
    obtain ⟨ops, ho, ha⟩ := ih hql hrest
    refine ⟨(if j + (p - i) = 0 then .prepend ys[j + (p - i)] else .addAfter (j + (p - i) - 1) ys[j + (p - i)]) :: ops,
      by simp only [leafOps, Nat.not_lt.mpr hip, ↓reduceIte, List.getElem?_eq_getElem hql, ho, Option.map_some], ?_⟩
    have := applyOp_add (ys.take (j + (p - i))) (xs.drop p) ys[j + (p - i)]
    rw [List.length_take_of_le hj', ← hsplit] at this
    rw [List.take_succ_eq_append_getElem hql, List.append_assoc] at ha
    simp only [applyOps, this, Option.bind_some]
    exact ha

/-- the whole list: from the initial state `(0, 0)` the patch turns `xs` into `ys` -/
theorem c11_leaflist_whole {α : Type} (xs ys : List α) (es : List Edit) (hv : Valid xs ys es 0 0) :
    ∃ ops, leafOps ys es 0 0 = some ops ∧ applyOps ops xs = some ys := by
  simpa using c11_leaflist xs ys es 0 0 (Nat.zero_le _) hv

theorem validB_iff {α : Type} [DecidableEq α] (xs ys : List α) (es : List Edit) (i j : Nat) :
    validB xs ys es i j = true ↔ Valid xs ys es i j := by
  induction es generalizing i j with
  | nil => simp [validB, Valid]
  | cons e rest ih => cases e <;> simp [validB, Valid, ih, and_assoc]

theorem validB_sound {α : Type} [DecidableEq α] (xs ys : List α) (es : List Edit) (i j : Nat)
    (h : validB xs ys es i j = true) : Valid xs ys es i j := (validB_iff xs ys es i j).1 h

/-- **Myers soundness**: every script the model of `MyersDiff` returns is valid, for all lists over any element type -/
theorem c11_myers_sound {α : Type} [DecidableEq α] (xs ys : List α) (es : List Edit)
    (h : Myers.myers xs ys = some es) : Valid xs ys es 0 0 :=
  Myers.valid_of_seg xs ys es 0 0 (Myers.diff_seg _ (.whole xs) (.whole ys) h)

/-- **Leaf list, end to end**: the operations `addLeafListChanges` emits for the script of `MyersDiff`, applied in
order, turn the old `S` list into the new one. -/
theorem c11_myers_patch {α : Type} [DecidableEq α] (xs ys : List α) (es : List Edit)
    (h : Myers.myers xs ys = some es) :
    ∃ ops, leafOps ys es 0 0 = some ops ∧ applyOps ops xs = some ys :=
  c11_leaflist_whole xs ys es (c11_myers_sound xs ys es h)

/-- non-vacuity: the model returns scripts (window slide, `D ≤ 1` branches, one list empty) -/
example : Myers.myers [1, 2, 3, 4] [2, 3, 4, 5] = some [.del 0, .ins 4 3] := by decide
example : Myers.myers [1, 2, 3] [1, 2, 3, 4] = some [.ins 3 3] := by decide
example : Myers.myers [1, 2, 3] [1, 2] = some [.del 2] := by decide
example : Myers.myers [7, 8] [7, 8] = some [] := by decide
example : Myers.myers ([] : List Nat) [5, 6] = some [.ins 0 0, .ins 0 1] := by decide

/-- non-vacuity: timeline `[a,b,c,d]` → `[b,c,d,e]` (oldest segment leaves, a new one is appended) -/
example : validB [1, 2, 3, 4] [2, 3, 4, 5] [.del 0, .ins 4 3] 0 0 = true := by decide
example : (leafOps [2, 3, 4, 5] [.del 0, .ins 4 3] 0 0) = some [.remove 0, .addAfter 2 5] := by decide
example : applyOps [.remove 0, .addAfter 2 5] [1, 2, 3, 4] = some [2, 3, 4, 5] := by decide

/-- **tie by translation**: the `pyMod` of the Myers model is the Go function, translated statement by statement from
the current source (`Gen/Trans.lean`, regenerated on every run) -/
theorem c11_trans_pyMod (x y : Int) : Gen.Trans.pyMod x y = Myers.pyMod x y := TransTie.pyMod_eq x y

/-- the `V` arrays of the Myers search are only indexed through `pyMod _ Z`, which lies in `[0, Z)` for every diagonal:
the reads and writes of the model never fall back to a default, and the Go code cannot index them out of range -/
theorem c11_myers_vindex_in_range (x : Int) (Z : Nat) (hZ : 0 < Z) :
    0 ≤ Myers.pyMod x Z ∧ (Myers.pyMod x Z).toNat < Z := by
  have := Myers.pyMod_range x Z (by omega)
  omega

/-- the snake loop of the Myers search, started at non-negative coordinates with the fuel `kStep` gives it, never
indexes the element lists out of range and never runs out of fuel (both directions) -/
theorem c11_myers_snake_total {α : Type} [DecidableEq α] (e f : List α) (o m : Int)
    (hom : (o = 1 ∧ m = 1) ∨ (o = 0 ∧ m = -1)) (a b : Int) (ha : 0 ≤ a) (hb : 0 ≤ b) :
    ∃ r, Myers.snake e f o m (e.length + 1) a b = some r :=
  Myers.snake_total e f o m hom (e.length + 1) a b ha hb (by push_cast; omega) (by omega)

end Patch
