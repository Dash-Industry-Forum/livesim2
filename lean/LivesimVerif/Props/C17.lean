import LivesimVerif.Lemmas.Receiver
import LivesimVerif.Lemmas.Trans
import LivesimVerif.Lemmas.RecvInv
import LivesimVerif.Model.Renum
/-!
# C17 — Ingest receiver: stored media and timeline MPD agree for any arrival order

Upload handlers only enqueue on `recSegCh`; the single channel goroutine applies the events one by
one, so "any interleaving of uploads" is "any event list" and every theorem below holds for every
reachable *and unreachable* generator state (no bound).  Model: `Model/Receiver.lean` (with the
`fix:` commits of this round), tied to the Go code by the ops `ctr`, `buf`, `gen`.
-/
namespace Recv

/-- The written SegmentTimeline, read back the way a DASH client expands it (explicit `@t`, implicit
continuation, `@r` repeats), gives exactly the decode time and duration of every listed stored segment —
for every list of stored segments, including discontinuities and duration changes. -/
theorem c17_listed_times (l : List Item) (t0 : Nat) :
    expandS (buildS l) t0 = l.map (fun it => (it.dts, it.dur)) :=
  buildS_spec l t0

/-- what a written MPD says about the state it was written from -/
theorem mpdOn_ok (g g' : Gen) (newSeqNr first last : Nat) (ass : List String) (tls : List (List Item))
    (h : g.mpdOn newSeqNr ass = .ok g' first last tls) :
    g.ctrs.fullRange g.tracks = some (first, last) ∧ g.latest < newSeqNr ∧ newSeqNr ≤ last ∧
    g' = { g with latest := last } ∧
    ass.mapM (fun rep => (lookupBuf g.bufs rep).bind (fun b => timelineFor b first last)) = some tls := by
  revert h
  fun_cases Gen.mpdOn g newSeqNr ass with
  | case1 | case2 | case3 | case4 => exact fun h => nomatch h
  | case5 f l hr h1 h2 _ tls' hm =>
    intro h
    cases h
    exact ⟨hr, Nat.not_le.mp h1, Nat.not_lt.mp h2, rfl, hm⟩

/-- `mpdOn` panics only if `fullRange` does, which needs a fill counter beyond the counter array -/
theorem mpdOn_ne_panic (g : Gen) (newSeqNr : Nat) (ass : List String) (hc : CW g.ctrs g.w) :
    g.mpdOn newSeqNr ass ≠ .panic := by
  fun_cases Gen.mpdOn g newSeqNr ass with
  | case1 hr =>
    unfold Ctrs.fullRange at hr
    rw [if_neg (Nat.not_lt.mpr hc.nr_le)] at hr
    cases hr
  | case2 | case3 | case4 | case5 => exact fun h => nomatch h

/-- When an MPD is written with range `[first,last]`: the newest listed number does not go backwards
(it is ≥ the triggering number, which is > the previous newest), the state changes in nothing but
`latest`, and for every AdaptationSet the listed entries are exactly the numbers first, first+1, …, last —
each one the segment stored in that AdaptationSet's first representation buffer under that number. -/
theorem c17_mpd_written (g g' : Gen) (newSeqNr first last : Nat) (ass : List String) (tls : List (List Item))
    (h : g.mpdOn newSeqNr ass = .ok g' first last tls) :
    g.latest < newSeqNr ∧ newSeqNr ≤ last ∧ g'.latest = last ∧ g' = { g with latest := last } ∧
    tls.length = ass.length ∧
    ∀ a (ha : a < ass.length) (ht : a < tls.length), ∃ b, lookupBuf g.bufs ass[a] = some b ∧
      tls[a].length = last + 1 - first ∧
      ∀ k (hk : k < tls[a].length), b.getItem (first + k) = some (tls[a][k]) := by
  obtain ⟨_, h1, h2, rfl, hm⟩ := mpdOn_ok g g' newSeqNr first last ass tls h
  obtain ⟨hlen, hk⟩ := List.mapM_some_spec hm
  refine ⟨h1, h2, rfl, rfl, hlen, fun a ha ht => ?_⟩
  have ka := hk a ha ht
  cases hb : lookupBuf g.bufs ass[a] with
  | none => simp [hb] at ka
  | some b =>
    simp only [hb, Option.bind_some, timelineFor] at ka
    have sp := List.mapM_some_spec ka
    refine ⟨b, rfl, by simpa using sp.1, fun k hk => ?_⟩
    have := sp.2 k (by rw [← sp.1]; exact hk) hk
    simpa [List.getElem_range'] using this

/-! ## The counters never count more than the buffers hold: invariant over every arrival order

`GInv` (Lemmas/RecvInv.lean): window and array sizes agree, track names are distinct, every buffer is strictly
increasing, and **a live counter inside the current window counts at most as many tracks as there are buffers holding
that number**.  It holds initially, every `addSegmentData` preserves it — any track, any number below 2³², any order,
duplicates, gaps — and under it no add can index out of range. -/

theorem c17_inv_init (w : Nat) (h0 : 0 < w) (hw : w < U32) : GInv (Gen.new w) := by
  refine GInv.of_shape (gshape_new w h0 hw) ?_ (by simp [Gen.new])
  intro c hc; simp [Gen.new, Ctrs.new, Ctrs.live] at hc

/-- **No arrival order stops the receiver, and the invariant survives every upload.** -/
theorem c17_add_preserves (g : Gen) (name : String) (it : Item) (hg : GInv g) (hn : it.seqNr < U32) :
    match g.add name it with
    | .panic => False
    | .err g' => GInv g'
    | .ok g' _ => GInv g' :=
  gen_add_inv g name it hg hn

/-- the state a `Gen.add` leaves behind, whatever the outcome (`none` = panic) -/
def Gen.addState (g : Gen) (name : String) (it : Item) : Option Gen :=
  match g.add name it with
  | .panic => none
  | .err g' => some g'
  | .ok g' _ => some g'

theorem addState_of (g : Gen) (name : String) (it : Item) (P : Gen → Prop)
    (h : match g.add name it with
      | .panic => False
      | .err g' => P g'
      | .ok g' _ => P g') : ∃ g', g.addState name it = some g' ∧ P g' := by
  unfold Gen.addState
  cases ha : g.add name it with
  | panic => rw [ha] at h; exact h.elim
  | err g1 => rw [ha] at h; exact ⟨g1, rfl, h⟩
  | ok g1 n => rw [ha] at h; exact ⟨g1, rfl, h⟩

/-- … hence for **every finite sequence of uploads**: no panic, and the invariant at the end. -/
theorem c17_adds_preserve (evs : List (String × Item)) (g : Gen) (hg : GInv g) (hn : ∀ e ∈ evs, e.2.seqNr < U32) :
    ∃ g', evs.foldlM (fun g e => g.addState e.1 e.2) g = some g' ∧ GInv g' :=
  List.foldlM_inv _ GInv (·.2.seqNr < U32) (fun g e hg he => addState_of g e.1 e.2 GInv (gen_add_inv g e.1 e.2 hg he)) evs g hg hn

/-- MPD generation changes nothing but `latest`, never panics, and keeps the invariant. -/
theorem c17_mpd_preserves (g : Gen) (newSeqNr : Nat) (ass : List String) (hg : GInv g) :
    match g.mpdOn newSeqNr ass with
    | .panic => False
    | .err _ => True
    | .ok g' _ _ _ => GInv g' := by
  cases h : g.mpdOn newSeqNr ass with
  | panic => exact mpdOn_ne_panic g newSeqNr ass hg.cw h
  | err _ => trivial
  | ok g' f l tls =>
    obtain ⟨_, _, _, rfl, _⟩ := mpdOn_ok g g' newSeqNr f l ass tls h
    exact { hg with }   -- no field of `GInv` mentions `latest`

/-- **Every listed number is held by every track.**  When an MPD is written with range `[first,last]` in a started
generator satisfying the invariant, every track buffer — not only the first representation of each AdaptationSet that
`c17_mpd_written` speaks of — holds a segment for every listed number inside the current window
(`newest counted number < k + windowSize`). -/
theorem c17_listed_every_track (g g' : Gen) (newSeqNr first last : Nat) (ass : List String) (tls : List (List Item))
    (hg : GInv g) (hst : g.started = true) (h : g.mpdOn newSeqNr ass = .ok g' first last tls) :
    ∀ k, first ≤ k → k ≤ last → mxOf g.ctrs < k + g.w → ∀ p ∈ g.bufs, (p.2.getItem k).isSome = true := by
  intro k hk1 hk2 hwin p hp
  obtain ⟨hr, h1, h2, _⟩ := mpdOn_ok g g' newSeqNr first last ass tls h
  -- `latest < newSeqNr ≤ last`, so `last` is not the sentinel 0
  obtain ⟨x, hx, hxk, hxc⟩ := fullRange_spec g.ctrs g.tracks first last hr (Nat.ne_of_gt (Nat.lt_of_le_of_lt (Nat.zero_le _) (Nat.lt_of_lt_of_le h1 h2))) k hk1 hk2
  have hcnt := hg.win x hx (by rw [hxk]; exact hwin)
  rw [hxk] at hcnt
  -- as many holders of `k` as there are buffers: all of them
  rw [getItem_isSome]
  refine List.length_filter_eq_length_iff.mp (Nat.le_antisymm (List.length_filter_le (fun p => holdsB p.2 k) _) ?_) p hp
  rw [← hg.tr hst]; exact Nat.le_trans hxc hcnt

/-! ## The whole life cycle: uploads, start, uploads

`GSorted` adds sorted counters and "no buffer holds a number above the newest counted one"; `GFresh` adds "every live
counter is inside the window".  Before start every state is fresh; `start` (not shifted) keeps `GSorted` for any new
window and `GFresh` when the window does not shrink; a shrink can leave counters outside the smaller window (they are
swept by the next upload above the newest number, `ctr_add_spec_sorted`). -/

theorem c17_fresh_init (w : Nat) (h0 : 0 < w) (hw : w < U32) : GFresh (Gen.new w) := by
  refine ⟨⟨c17_inv_init w h0 hw, ?_, ?_⟩, ?_⟩
  · intro j1 j2 _ _ _ h2; simp [Gen.new, Ctrs.new] at h2
  · intro p hp; simp [Gen.new] at hp
  · intro x hx; simp [Gen.new, Ctrs.new, Ctrs.live] at hx

/-- every finite sequence of uploads from a sorted state: no panic, `GSorted` at the end, window and started flag
unchanged, freshness kept -/
theorem c17_adds_sorted (evs : List (String × Item)) (g : Gen) (hg : GSorted g) (hn : ∀ e ∈ evs, e.2.seqNr < U32) :
    ∃ g', evs.foldlM (fun g e => g.addState e.1 e.2) g = some g' ∧ GSorted g' ∧ g'.w = g.w ∧ g'.started = g.started ∧
      (Fresh g.ctrs g.w → Fresh g'.ctrs g'.w) := by
  refine List.foldlM_inv _ (fun g' => GSorted g' ∧ g'.w = g.w ∧ g'.started = g.started ∧ (Fresh g.ctrs g.w → Fresh g'.ctrs g'.w))
    (·.2.seqNr < U32) ?_ evs g ⟨hg, rfl, rfl, id⟩ hn
  intro g1 e ⟨hg1, hw1, hs1, hf1⟩ he
  obtain ⟨g2, ha, hg2, hw2, hs2, hf2⟩ := addState_of g1 e.1 e.2 _ (gen_add_sorted g1 e.1 e.2 hg1 he)
  exact ⟨g2, ha, hg2, hw2.trans hw1, hs2.trans hs1, fun hf => hf2 (hf1 hf)⟩

/-- **Life cycle.**  Any uploads before start, `start` to any window `0 < w < 2³²`, any uploads after: nothing panics,
the generator is started, the invariant holds at the end, and all counters are inside the window if the window did not
shrink. -/
theorem c17_lifecycle (w0 w : Nat) (evs1 evs2 : List (String × Item)) (h0 : 0 < w0) (hw0 : w0 < U32)
    (h1 : 0 < w) (hw1 : w < U32) (hn1 : ∀ e ∈ evs1, e.2.seqNr < U32) (hn2 : ∀ e ∈ evs2, e.2.seqNr < U32) :
    ∃ g1 g2 g3, evs1.foldlM (fun g e => g.addState e.1 e.2) (Gen.new w0) = some g1 ∧
      g1.start w false = some g2 ∧ evs2.foldlM (fun g e => g.addState e.1 e.2) g2 = some g3 ∧
      GSorted g3 ∧ g3.started = true ∧ g3.w = w ∧ (w0 ≤ w → GFresh g3) := by
  have hi := c17_fresh_init w0 h0 hw0
  obtain ⟨g1, hf1, hg1, hw, _, hfr1⟩ := c17_adds_sorted evs1 (Gen.new w0) hi.base hn1
  have hfresh1 : GFresh g1 := ⟨hg1, hfr1 hi.fresh⟩
  obtain ⟨g2, hs2, hg2, hst2, hw2, hfr2⟩ := start_spec g1 w hfresh1 h1 hw1
  obtain ⟨g3, hf3, hg3, hw3, hst3, hfr3⟩ := c17_adds_sorted evs2 g2 hg2 hn2
  refine ⟨g1, g2, g3, hf1, hs2, hf3, hg3, by rw [hst3, hst2], by rw [hw3, hw2], ?_⟩
  intro hle
  refine ⟨hg3, hfr3 ?_⟩
  rw [hw2]; exact hfr2 (by rw [hw]; exact hle)

/-- **Every listed number is held by every track** — without the window side condition when all counters are fresh. -/
theorem c17_listed_every_track_fresh (g g' : Gen) (newSeqNr first last : Nat) (ass : List String) (tls : List (List Item))
    (hg : GFresh g) (hst : g.started = true) (h : g.mpdOn newSeqNr ass = .ok g' first last tls) :
    ∀ k, first ≤ k → k ≤ last → ∀ p ∈ g.bufs, (p.2.getItem k).isSome = true := by
  intro k hk1 hk2
  obtain ⟨hr, h1, h2, _⟩ := mpdOn_ok g g' newSeqNr first last ass tls h
  obtain ⟨x, hx, hxk, _⟩ := fullRange_spec g.ctrs g.tracks first last hr (Nat.ne_of_gt (Nat.lt_of_le_of_lt (Nat.zero_le _) (Nat.lt_of_lt_of_le h1 h2))) k hk1 hk2
  exact c17_listed_every_track g g' newSeqNr first last ass tls hg.base.inv hst h k hk1 hk2 (hxk ▸ hg.fresh x hx)

/-- **Only representations that have delivered media are written** (`fix:` commit; the late-track finding): the
AdaptationSets of the written MPD are those with at least one delivering Representation, each keeps exactly its
delivering Representations, and the timeline is taken from the first of them — so every written Representation has a
buffer with items, and with `c17_listed_every_track` holds every listed number. -/
theorem c17_written_reps_deliver (bufs : List (String × Buf)) (ass : List (List String)) :
    ∀ reps ∈ listedSets bufs ass, reps ≠ [] ∧ (∀ r ∈ reps, delivering bufs r = true) ∧
      ∃ all ∈ ass, reps = all.filter (delivering bufs) := by
  intro reps hr
  unfold listedSets at hr
  rw [List.mem_filter, List.mem_map] at hr
  obtain ⟨⟨all, hall, rfl⟩, hne⟩ := hr
  refine ⟨?_, ?_, all, hall, rfl⟩
  · intro h; simp [h] at hne
  · intro r hr; exact (List.mem_filter.mp hr).2

/-- **Counters and buffers stay within the window**: never more than `windowSize` live entries, in arrays of exactly
that length. -/
theorem c17_bounded (g : Gen) (hg : GInv g) :
    g.ctrs.nr ≤ g.w ∧ g.ctrs.arr.length = g.w ∧ ∀ p ∈ g.bufs, p.2.nr ≤ g.w ∧ p.2.items.length = g.w :=
  ⟨hg.cw.nr, hg.cw.len, fun p hp => ⟨(hg.bw p hp).nr, (hg.bw p hp).len⟩⟩

/-- the range an MPD generation writes, if it writes -/
def Gen.mpdRange (g : Gen) (n : Nat) (ass : List (List String)) : Option (Nat × Nat) :=
  match g.mpd n ass with
  | .ok _ f l _ => some (f, l)
  | _ => none

def exEvs1 : List (String × Item) := [("v", ⟨1, 10, 10, false⟩), ("a", ⟨1, 10, 10, false⟩), ("v", ⟨2, 20, 10, false⟩)]
def exEvs2 : List (String × Item) := [("a", ⟨2, 20, 10, false⟩)]
def exRun : Option Gen := do
  let g1 ← exEvs1.foldlM (fun g e => g.addState e.1 e.2) (Gen.new 8)
  let g2 ← g1.start 8 false
  exEvs2.foldlM (fun g e => g.addState e.1 e.2) g2

/-- non-vacuity of `c17_listed_every_track_fresh`: a concrete run (two tracks, start, the late track catches up) ends in
a started state that satisfies `GFresh` and writes an MPD listing 1..2 -/
example : ∃ g, exRun = some g ∧ GFresh g ∧ g.started = true ∧ g.mpdRange 2 [["v"], ["a"]] = some (1, 2) := by
  obtain ⟨g1, g2, g3, h1, h2, h3, _, hst, _, hf⟩ := c17_lifecycle 8 8 exEvs1 exEvs2 (by decide) (by decide) (by decide) (by decide)
    (by decide) (by decide)
  have hrun : exRun = some g3 := by
    unfold exRun; rw [h1]; simp only [Option.bind_eq_bind, Option.bind_some]; rw [h2]; simp only [Option.bind_some]; exact h3
  refine ⟨g3, hrun, hf (Nat.le_refl _), hst, ?_⟩
  have hc : (exRun.bind (fun g => g.mpdRange 2 [["v"], ["a"]])) = some (1, 2) := by decide
  rw [hrun] at hc
  simpa using hc

/-- non-vacuity: two tracks, three rounds, started after the second master segment; the third round
produces an MPD listing 1..3 -/
example :
    (match (Gen.new 8).add "v" ⟨1, 10, 10, false⟩ with
     | .ok g _ => match g.add "a" ⟨1, 10, 10, false⟩ with
       | .ok g _ => match g.add "v" ⟨2, 20, 10, false⟩ with
         | .ok g _ => match g.start 4 false with
           | some g => match g.add "a" ⟨2, 20, 10, false⟩ with
             | .ok g n => (n, match g.mpd n [["v"], ["a"]] with | .ok _ f l _ => (f, l) | _ => (0, 0))
             | _ => (0, (0, 0))
           | none => (0, (0, 0))
         | _ => (0, (0, 0))
       | _ => (0, (0, 0))
     | _ => (0, (0, 0))) = (2, (1, 2)) := by decide

example : expandS (buildS [⟨5, 100, 10, false⟩, ⟨6, 110, 10, false⟩, ⟨7, 121, 9, false⟩, ⟨8, 130, 10, false⟩]) 0
    = [(100, 10), (110, 10), (121, 9), (130, 10)] := by decide

/-! ## Every operation of the generator, in any order -/

/-- the operations the channel goroutine applies to the generator -/
inductive GOp
  | add (name : String) (it : Item)      -- `addSegmentData`
  | drop (n : Nat)                       -- `dropSeqNr` (a non-consecutive first pair of the master track)
  | start (w : Nat) (shifted : Bool)     -- `start` (resize; for a shifted channel `removeUnshifted` + `drop`s)

/-- what the callers guarantee: sequence numbers are `uint32`, the window is positive -/
def GOp.wf : GOp → Prop
  | .add _ it => it.seqNr < U32
  | .drop _ => True
  | .start w _ => 0 < w ∧ w < U32

/-- one operation; `none` = an index out of range, which would kill the channel goroutine -/
def runOp (g : Gen) : GOp → Option Gen
  | .add name it => match g.add name it with
    | .ok g' _ => some g'
    | .err g' => some g'
    | .panic => none
  | .drop n => g.dropSeqNr n
  | .start w sh => g.start w sh

def runOps (g : Gen) : List GOp → Option Gen
  | [] => some g
  | op :: rest => (runOp g op).bind (fun g' => runOps g' rest)

theorem runOp_add (g : Gen) (name : String) (it : Item) : runOp g (.add name it) = g.addState name it := by
  unfold Gen.addState
  simp only [runOp]
  cases g.add name it <;> rfl

theorem runOp_shape (g : Gen) (op : GOp) (hg : GShape g) (hop : op.wf) : ∃ g', runOp g op = some g' ∧ GShape g' := by
  cases op with
  | add name it => rw [runOp_add]; exact addState_of g name it GShape (gen_add_shape g name it hg hop)
  | drop n => exact gen_drop_shape g n hg
  | start w sh => exact gen_start_shape g w sh hg hop.1 hop.2

/-- `runOps` is `foldlM runOp` written out as a recursion; the fold is the form `List.foldlM_inv` speaks of -/
theorem runOps_eq_foldlM (g : Gen) (ops : List GOp) : runOps g ops = ops.foldlM runOp g := by
  induction ops generalizing g with
  | nil => rfl
  | cons op rest ih => simp only [runOps, List.foldlM_cons, ih]; rfl

/-- **No sequence of operations stops the receiver**: uploads of any track and number in any order, repairs of the
first pair (`dropSeqNr`), starts with or without the shift to any window — interleaved arbitrarily, from a new
generator — never index out of range, and the state stays well-formed (sizes, fill counters, distinct track names,
strictly increasing buffers), so the next operation is safe again. -/
theorem c17_any_ops_no_panic (w : Nat) (h0 : 0 < w) (hw : w < U32) (ops : List GOp) (hwf : ∀ op ∈ ops, op.wf) :
    ∃ g', runOps (Gen.new w) ops = some g' ∧ GShape g' := by
  rw [runOps_eq_foldlM]
  exact List.foldlM_inv runOp GShape GOp.wf runOp_shape ops _ (gshape_new w h0 hw) hwf

/-- non-vacuity: a shifted start after unshifted uploads with a gap, a repair and further uploads -/
example : (runOps (Gen.new 3) [.add "v" ⟨5, 500, 100, false⟩, .add "v" ⟨7, 700, 100, false⟩, .drop 5,
    .add "a" ⟨7, 700, 100, false⟩, .start 4 true, .add "v" ⟨8, 800, 100, true⟩, .add "a" ⟨8, 800, 100, true⟩]).isSome = true := by
  decide

/-- **tie by translation**: the window start `minFromMax` of the counter model is the Go method, translated from the
current source (`Gen/Trans.lean`, regenerated on every run; the receiver field `windowSize` is a parameter) -/
theorem c17_trans_minFromMax (c : Ctrs) (mx : Nat) :
    Gen.Trans.minFromMax (c.w : Int) (mx : Int) = ((c.minFromMax mx : Nat) : Int) := TransTie.minFromMax_eq c mx

end Recv

/-!
## Renumbered channels — the stored stream satisfies `number = time / duration` again

Model `Model/Renum.lean`, tied to the receiver by the op `renum` (a real receiver is fed the uploads and the stored files
are listed with their decode times).
-/
namespace Renum

/-- the index the master's first segment gets: its time rounded *up* to the segment grid -/
def firstIdx (dts0 dur : Nat) : Nat := dts0 / dur + (if dts0 % dur ≠ 0 then 1 else 0)

theorem start_dur (seq0 dts0 dur mTS : Nat) : (start seq0 dts0 dur mTS).dur = dur ∧ (start seq0 dts0 dur mTS).mTS = mTS := by
  unfold start; simp only []; split <;> simp

/-- the time shift moves the master's first segment up to the grid point `firstIdx` -/
theorem start_timeShift (seq0 dts0 dur mTS : Nat) (hd : 0 < dur) :
    dts0 + (start seq0 dts0 dur mTS).timeShift = firstIdx dts0 dur * dur := by
  have hsplit := Nat.div_add_mod dts0 dur
  have hlt := Nat.mod_lt dts0 hd
  unfold start firstIdx
  by_cases ho : dts0 % dur = 0
  · simp only [ho, ne_eq, not_true_eq_false, if_false, Nat.add_zero]
    rw [Nat.mul_comm]; omega
  · simp only [ho, ne_eq, not_false_eq_true, if_true]
    rw [Nat.add_mul, Nat.one_mul, Nat.mul_comm]; omega

/-- in the master's own timescale the shift is added as it is -/
theorem outTime_master (s : Start) (t : Nat) {T : Nat} (hs : s.mTS = T) (hT : 0 < T) : s.outTime t T = t + s.timeShift := by
  subst hs
  unfold Start.outTime
  split
  · simp only [ne_eq, not_true_eq_false]; exact Nat.mul_div_cancel _ hT
  · rename_i h; rw [Decidable.not_not.mp h]; rfl

/-- **The master track lands on the grid**: after the start, the master's `j`-th segment (decode time `dts0 + j·dur`) is
stored with decode time `(firstIdx + j)·dur`. -/
theorem c17_master_time (seq0 dts0 dur mTS j : Nat) (hd : 0 < dur) (hT : 0 < mTS) :
    (start seq0 dts0 dur mTS).outTime (dts0 + j * dur) mTS = (firstIdx dts0 dur + j) * dur := by
  rw [outTime_master _ _ (start_dur seq0 dts0 dur mTS).2 hT, Nat.add_right_comm, start_timeShift seq0 dts0 dur mTS hd, Nat.add_mul]

/-- **Every other track follows the nearest grid point**: an upload whose shifted time lies within half a segment
duration of `k·segDur` (before or after — audio cut at frame boundaries starts a little early or late) gets number
`k − startNr`, the number of the master segment it belongs to. -/
theorem c17_track_number (s : Start) (startNr inTime tsIn k : Nat) (hsd : 0 < s.segDur tsIn)
    (hlo : k * s.segDur tsIn ≤ s.outTime inTime tsIn + s.segDur tsIn / 2)
    (hhi : s.outTime inTime tsIn + s.segDur tsIn / 2 < (k + 1) * s.segDur tsIn) :
    s.renumber startNr inTime tsIn =
      some ((k % 4294967296 + 4294967296 - startNr % 4294967296) % 4294967296, s.outTime inTime tsIn) := by
  fun_cases Start.renumber s startNr inTime tsIn with
  | case1 sd h => exact absurd h (Nat.ne_of_gt hsd)
  | @case2 t sd _ =>
    have : (t + sd / 2) / sd = k := Nat.div_eq_of_lt_le hlo hhi
    rw [this]

/-- **The master track is numbered by its time**: the number of its `j`-th segment is `firstIdx + j − startNr` (in `uint32`
arithmetic), so consecutive master segments get consecutive numbers and `number + startNr = time / duration` holds for
what is stored. -/
theorem c17_master_number (seq0 dts0 dur mTS j startNr : Nat) (hd : 0 < dur) (hT : 0 < mTS) :
    (start seq0 dts0 dur mTS).renumber startNr (dts0 + j * dur) mTS =
      some (((firstIdx dts0 dur + j) % 4294967296 + 4294967296 - startNr % 4294967296) % 4294967296,
            (firstIdx dts0 dur + j) * dur) := by
  have hsd : (start seq0 dts0 dur mTS).segDur mTS = dur := by
    unfold Start.segDur; rw [(start_dur seq0 dts0 dur mTS).1, (start_dur seq0 dts0 dur mTS).2, Nat.mul_div_cancel _ hT]
  have ht := c17_master_time seq0 dts0 dur mTS j hd hT
  rw [← ht]
  apply c17_track_number _ startNr _ mTS (firstIdx dts0 dur + j) (by rw [hsd]; exact hd)
  · rw [hsd, ht]; exact Nat.le_add_right _ _
  · rw [hsd, ht, Nat.add_mul _ 1, Nat.one_mul]; exact Nat.add_lt_add_left (Nat.div_lt_self hd (by decide)) _

/-- an upload that starts *before* its grid point by less than half a segment is not counted to the previous number
(the floor a careless rewrite would take) -/
theorem c17_early_start_same_number (s : Start) (startNr inTime tsIn k e : Nat) (hsd : 0 < s.segDur tsIn)
    (ht : s.outTime inTime tsIn + e = k * s.segDur tsIn) (he : e ≤ s.segDur tsIn / 2) :
    s.renumber startNr inTime tsIn =
      some ((k % 4294967296 + 4294967296 - startNr % 4294967296) % 4294967296, s.outTime inTime tsIn) := by
  apply c17_track_number s startNr inTime tsIn k hsd
  · omega
  · have : (k + 1) * s.segDur tsIn = k * s.segDur tsIn + s.segDur tsIn := by rw [Nat.add_mul, Nat.one_mul]
    have h2 : s.segDur tsIn / 2 < s.segDur tsIn := Nat.div_lt_self hsd (by decide)
    omega

/-- non-vacuity: 2 s segments at 90 kHz, first master segment number 8090 at 10 s + 0.5 s: index 6, time shift 1.5 s;
audio (48 kHz) of the next round starting one AAC frame early is numbered with it -/
example : start 8090 945000 180000 90000 = ⟨180000, 90000, -8085 + 1, 135000⟩ := by decide
example : (start 8090 945000 180000 90000).renumber 0 (945000 + 180000) 90000 = some (7, 1260000) := by decide
example : (start 8090 945000 180000 90000).renumber 0 (504000 + 96000 - 1024) 48000 = some (7, 670976) := by decide

end Renum
