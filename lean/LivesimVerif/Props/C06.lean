import LivesimVerif.Model.Mpd
/-!
# C06 — Splitting into periods preserves the timeline and the segment identities

`splitPeriod` / `reduceS` of the model (`Model/Mpd.lean`).  Periods `startP … endP` are the half-open tick
intervals `[p·pd·ts, (p+1)·pd·ts)`; `reduceS` keeps the single-period entries whose start lies in the interval.
-/
namespace Core

/-- AdaptationSet `o` as `splitPeriod` writes it into period `p` (period duration `pd` seconds).  `periodSet` and
`periodOut` restate the two lambdas inside `splitPeriodCore` (`Model/Mpd.lean`) and are identified with them only by
definitional unfolding, at `h.symm` in `splitPeriod_ok`: keep them in step with the model, a mismatch shows up there. -/
def periodSet (cfg : MpdCfg) (pd p : Nat) (o : ASOut) : ASOut :=
  match o.tl with
  | none =>
    { o with pto := some (p * pd * o.ts), startNr := some ((p * pd * o.ts / (o.dur.getD 1) + cfg.startNr) % 4294967296),
             cont := cfg.continuous }
  | some tl =>
    { o with pto := some (p * pd * o.ts), tl := some (reduceS tl (o.startNr.getD 0) (p * pd * o.ts) ((p + 1) * pd * o.ts)).1,
             cont := cfg.continuous,
             startNr := if o.timeAddr then none
               else some ((reduceS tl (o.startNr.getD 0) (p * pd * o.ts) ((p + 1) * pd * o.ts)).2 % 4294967296) }

def periodOut (cfg : MpdCfg) (sets : List ASOut) (pd p : Nat) : PeriodOut :=
  { id := p, startS := p * pd, sets := sets.map (periodSet cfg pd p) }

/-- **What an accepted split is**: the periods are aligned, and the result is `periodOut p` for the periods `p` from that
of the window start to that of now. -/
theorem splitPeriod_ok (a : Asset) (cfg : MpdCfg) (wt : WrapTimes) (sets : List ASOut) (pph : Nat) (ps : List PeriodOut)
    (h : splitPeriod a cfg wt sets pph = .ok ps) :
    periodsAligned a pph = true ∧
    ps = (List.range' ((wt.startTimeMS - cfg.startS * 1000) / (3600 / pph * 1000))
        ((wt.nowMS - cfg.startS * 1000) / (3600 / pph * 1000) + 1 - (wt.startTimeMS - cfg.startS * 1000) / (3600 / pph * 1000))).map
      (periodOut cfg sets (3600 / pph)) := by
  revert h
  fun_cases splitPeriod a cfg wt sets pph with
  | case1 => nofun
  | case2 hal =>
    fun_cases splitPeriodCore a cfg wt sets pph with
    | case1 | case2 | case3 | case4 => nofun
    -- the one branch that answers: all four guards of `splitPeriodCore` passed, of which
    -- `h0 : ¬ pph = 0`, `h1 : ¬ a.segDurMS = 0`, `h2 : ¬ pd * 1000 % a.segDurMS ≠ 0`
    | case5 h0 pd h1 h2 =>
      intro h
      injection h with h
      refine ⟨?_, h.symm⟩
      cases hA : periodsAligned a pph with
      | true => rfl
      | false => exact absurd ⟨h0, h1, Decidable.of_not_not h2, hA⟩ hal

theorem periodSet_pto_ts (cfg : MpdCfg) (pd p : Nat) (o : ASOut) :
    ((periodSet cfg pd p o).pto, (periodSet cfg pd p o).ts) = (some (p * pd * o.ts), o.ts) := by
  unfold periodSet; cases o.tl <;> rfl

theorem periodSet_cont (cfg : MpdCfg) (pd p : Nat) (o : ASOut) : (periodSet cfg pd p o).cont = cfg.continuous := by
  unfold periodSet; cases o.tl <;> rfl

/-- **Tiling, stable ids**: the generated periods are `startP, startP+1, …, endP`, period `p` starts at
`p · periodDuration` and has id `P{p}` — a function of `p` only, not of the instant. -/
theorem c06_tile (a : Asset) (cfg : MpdCfg) (wt : WrapTimes) (sets : List ASOut) (pph : Nat) (ps : List PeriodOut)
    (h : splitPeriod a cfg wt sets pph = .ok ps) :
    ps.map (fun p => (p.id, p.startS)) =
      (List.range' ((wt.startTimeMS - cfg.startS * 1000) / (3600 / pph * 1000))
        ((wt.nowMS - cfg.startS * 1000) / (3600 / pph * 1000) + 1 - (wt.startTimeMS - cfg.startS * 1000) / (3600 / pph * 1000))).map
        (fun p => (p, p * (3600 / pph))) := by
  rw [(splitPeriod_ok a cfg wt sets pph ps h).2, List.map_map]
  rfl

/-- **presentationTimeOffset is the period start in the AdaptationSet's timescale**, for every period and every
AdaptationSet (timeline or `$Number$`), whatever the number of periods per hour: a segment with media time `t` is
presented at `Period@start + (t − PTO)/timescale = t/timescale`, its time in the single-period presentation. -/
theorem c06_pto (a : Asset) (cfg : MpdCfg) (wt : WrapTimes) (sets : List ASOut) (pph : Nat) (ps : List PeriodOut)
    (h : splitPeriod a cfg wt sets pph = .ok ps) :
    ∀ p ∈ ps, p.sets.map (fun o => (o.pto, o.ts)) = sets.map (fun o => (some (p.startS * o.ts), o.ts)) := by
  rw [(splitPeriod_ok a cfg wt sets pph ps h).2]
  intro p hp
  obtain ⟨q, _, rfl⟩ := List.mem_map.mp hp
  show (sets.map (periodSet cfg _ q)).map _ = _
  rw [List.map_map]
  exact List.map_congr_left fun o _ => periodSet_pto_ts cfg _ q o

theorem mem_reduceS (entries : List (Nat × Nat)) (startNr pStart pEnd : Nat) (e : Nat × Nat) :
    e ∈ (reduceS entries startNr pStart pEnd).1 ↔ e ∈ entries ∧ pStart ≤ e.1 ∧ e.1 < pEnd := by
  simp only [reduceS, List.mem_filter, decide_eq_true_eq]

/-- **Identity**: an entry kept in a period is an entry of the single-period timeline, unchanged, and its start
lies in that period's interval. -/
theorem c06_kept_is_original (entries : List (Nat × Nat)) (startNr pStart pEnd : Nat) (e : Nat × Nat)
    (h : e ∈ (reduceS entries startNr pStart pEnd).1) : e ∈ entries ∧ pStart ≤ e.1 ∧ e.1 < pEnd :=
  (mem_reduceS entries startNr pStart pEnd e).mp h

/-- **Partition**: every entry of the single-period timeline whose start lies in a period's interval is kept in that
period — and (by `c06_kept_is_original`, the intervals being disjoint) in no other. -/
theorem c06_partition (entries : List (Nat × Nat)) (startNr pStart pEnd : Nat) (e : Nat × Nat)
    (he : e ∈ entries) (h1 : pStart ≤ e.1) (h2 : e.1 < pEnd) : e ∈ (reduceS entries startNr pStart pEnd).1 :=
  (mem_reduceS entries startNr pStart pEnd e).mpr ⟨he, h1, h2⟩

/-- consecutive period intervals are disjoint and adjacent: a tick belongs to exactly one of them -/
theorem c06_interval_unique (pd ts t p q : Nat) (hp : p * pd * ts ≤ t ∧ t < (p + 1) * pd * ts)
    (hq : q * pd * ts ≤ t ∧ t < (q + 1) * pd * ts) : p = q := by
  -- cancel the period length
  have key : ∀ {p q : Nat}, p * pd * ts ≤ t → t < (q + 1) * pd * ts → p ≤ q := fun h1 h2 =>
    Nat.le_of_lt_succ (Nat.lt_of_mul_lt_mul_right (Nat.lt_of_mul_lt_mul_right (Nat.lt_of_le_of_lt h1 h2)))
  exact Nat.le_antisymm (key hp.1 hq.2) (key hq.1 hp.2)

/-- **Numbers are preserved** on a sorted timeline: the first kept entry keeps the number it has in the
single-period MPD (`startNr` + its index), because exactly the entries before it start before the period. -/
theorem c06_first_number (pre kept post : List (Nat × Nat)) (startNr pStart pEnd : Nat)
    (hpre : ∀ e ∈ pre, e.1 < pStart) (hk : ∀ e ∈ kept, pStart ≤ e.1 ∧ e.1 < pEnd) (hpost : ∀ e ∈ post, pEnd ≤ e.1)
    (hne : kept ≠ []) (hlt : pStart ≤ pEnd) :
    reduceS (pre ++ kept ++ post) startNr pStart pEnd = (kept, startNr + pre.length) := by
  -- the period's interval holds exactly `kept`; exactly `pre` lies before it
  have f1 : (pre ++ kept ++ post).filter (fun e => decide (pStart ≤ e.1 ∧ e.1 < pEnd)) = kept := by
    rw [List.filter_append, List.filter_append,
      List.filter_eq_nil_iff.mpr fun e he h => Nat.not_le.mpr (hpre e he) (of_decide_eq_true h).1,
      List.filter_eq_self.mpr fun e he => decide_eq_true (hk e he),
      List.filter_eq_nil_iff.mpr fun e he h => Nat.not_le.mpr (of_decide_eq_true h).2 (hpost e he),
      List.nil_append, List.append_nil]
  have f2 : (pre ++ kept ++ post).filter (fun e => decide (e.1 < pStart)) = pre := by
    rw [List.filter_append, List.filter_append,
      List.filter_eq_self.mpr fun e he => decide_eq_true (hpre e he),
      List.filter_eq_nil_iff.mpr fun e he h => Nat.not_le.mpr (of_decide_eq_true h) (hk e he).1,
      List.filter_eq_nil_iff.mpr fun e he h => Nat.not_le.mpr (of_decide_eq_true h) (Nat.le_trans hlt (hpost e he)),
      List.append_nil, List.append_nil]
  unfold reduceS
  simp only [f1, f2]
  rw [if_neg fun h => hne (List.isEmpty_iff.mp h.1)]

/-- **Rejection**: a period duration that is not a multiple of the segment duration is refused (error, not a crash);
values 0 and > 3600 of periods-per-hour are refused by the configuration check (`fix:` commit; driver/`cfg` op). -/
theorem c06_reject (a : Asset) (cfg : MpdCfg) (wt : WrapTimes) (sets : List ASOut) (pph : Nat)
    (hp : 0 < pph) (hs : 0 < a.segDurMS) (hn : (3600 / pph) * 1000 % a.segDurMS ≠ 0) :
    splitPeriod a cfg wt sets pph = .err := by
  unfold splitPeriod
  rw [if_neg (fun hc => hn hc.2.2.1)]
  unfold splitPeriodCore
  simp [Nat.ne_of_gt hp, Nat.ne_of_gt hs, hn]

/-- Continuity is signalled in every AdaptationSet of every period exactly when requested. -/
theorem c06_continuity (a : Asset) (cfg : MpdCfg) (wt : WrapTimes) (sets : List ASOut) (pph : Nat) (ps : List PeriodOut)
    (h : splitPeriod a cfg wt sets pph = .ok ps) : ∀ p ∈ ps, ∀ o ∈ p.sets, o.cont = cfg.continuous := by
  rw [(splitPeriod_ok a cfg wt sets pph ps h).2]
  intro p hp o ho
  obtain ⟨q, _, rfl⟩ := List.mem_map.mp hp
  obtain ⟨o', _, rfl⟩ := List.mem_map.mp ho
  exact periodSet_cont cfg _ q o'

/-- non-vacuity: a 6-entry timeline of 2 s segments at 90 kHz split at 60 s -/
example : reduceS [(5040000, 180000), (5220000, 180000), (5400000, 180000), (5580000, 180000)] 28 (60 * 90000) (120 * 90000)
    = ([(5400000, 180000), (5580000, 180000)], 30) := by decide

/-- **Period starts are segment starts**: when the alignment check passes, every multiple of the period duration,
taken relative to the loop, is the start of a segment of the reference representation — for every period number `k`,
i.e. in every loop of the stream. -/
theorem c06_aligned_starts (r : Rep) (pd : Nat) (h : periodsOnStarts r pd = true) (k : Nat) :
    ∃ s ∈ r.segs, s.start = (r.seg 0).start + (k * (pd * r.T)) % r.dur := by
  revert h
  fun_cases periodsOnStarts r pd with
  | case1 => nofun
  | case2 per hc g =>
    intro h
    have hL : 0 < r.dur := Nat.pos_of_ne_zero fun e => hc (Or.inl e)
    -- the offset in the loop is a multiple `j · g` of `g = gcd(period, loop)`, and `j · g < loop`
    obtain ⟨j, hj⟩ : g ∣ k * per % r.dur :=
      (Nat.dvd_mod_iff (Nat.gcd_dvd_right _ _)).2 (Nat.dvd_trans (Nat.gcd_dvd_left _ _) (Nat.dvd_mul_left _ _))
    have hlt := Nat.mod_lt (k * per) hL
    rw [hj] at hlt ⊢
    have hjr : j < (r.dur + g - 1) / g :=
      Nat.lt_of_lt_of_le ((Nat.lt_div_iff_mul_lt' (Nat.gcd_dvd_right _ _) j).mpr hlt)
        (Nat.div_le_div_right (Nat.le_sub_one_of_lt (Nat.lt_add_of_pos_right (Nat.gcd_pos_of_pos_right _ hL))))
    obtain ⟨s, hs, he⟩ := List.any_eq_true.mp (List.all_eq_true.mp h j (List.mem_range.2 hjr))
    exact ⟨s, hs, by rw [Nat.mul_comm]; exact of_decide_eq_true he⟩

/-- **Rejection of unaligned periods**: when the average segment duration divides the period but the period starts do
not fall on segment starts of the reference track (2.002 s video with slightly shorter audio), the request is refused -/
theorem c06_reject_unaligned (a : Asset) (cfg : MpdCfg) (wt : WrapTimes) (sets : List ASOut) (pph : Nat)
    (hp : pph ≠ 0) (hs : a.segDurMS ≠ 0) (hd : 3600 / pph * 1000 % a.segDurMS = 0) (hn : periodsAligned a pph = false) :
    splitPeriod a cfg wt sets pph = .err := by
  unfold splitPeriod
  rw [if_pos ⟨hp, hs, hd, hn⟩]

theorem c06_accepted_aligned (a : Asset) (cfg : MpdCfg) (wt : WrapTimes) (sets : List ASOut) (pph : Nat) (ps : List PeriodOut)
    (h : splitPeriod a cfg wt sets pph = .ok ps) : periodsAligned a pph = true :=
  (splitPeriod_ok a cfg wt sets pph ps h).1

/-- non-vacuity: one 8 s segment per loop against 60 s periods (period starts at loop offset 4 s): not aligned, against
120 s periods: aligned; a loop of 3.5 + 6.4 + 0.1 s against 60 s periods: aligned (the periods start with the loop) -/
example : periodsOnStarts (Rep.mk "V" .video 1 [⟨0, 8, 1⟩] 0 0 false false) 60 = false := by decide
example : periodsOnStarts (Rep.mk "V" .video 1 [⟨0, 8, 1⟩] 0 0 false false) 120 = true := by decide
example : periodsOnStarts (Rep.mk "V" .video 10 [⟨0, 35, 1⟩, ⟨35, 99, 2⟩, ⟨99, 100, 3⟩] 0 0 false false) 60 = true := by decide

end Core
