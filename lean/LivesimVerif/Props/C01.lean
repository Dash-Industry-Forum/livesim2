import LivesimVerif.Lemmas.Core
import LivesimVerif.Model.Ttml
/-!
# C01 — Looped output is one gap-free, wall-clock-anchored media timeline

`S a r k` / `E a r k` are start and end of output segment `k` (counted from availabilityStartTime) of the spec;
`byNr` / `byTime` model `findSegMetaFromNr` / `findSegMetaFromTime`.  Hypotheses: `Contig r` (segment table
contiguous — proved for the `$Number$` loader in C15) and `Closes a r` (wrap duration in ticks equals the table
duration and the table starts at 0 — what `consolidateAsset` admits for the reference representation).
Payload identity / box rewriting are `mp4ff`'s and are tied by the `seg` correspondence (payload hashes) only.
-/
namespace Core

/-- **Gap-free across every wrap**: segment k+1 starts exactly where segment k ends, for every k. -/
theorem c01_gap_free (a : Asset) (r : Rep) (h : Contig r) (hc : Closes a r) (k : Nat) :
    S a r (k + 1) = E a r k := S_succ a r h hc k

/-- What a `$Number$` lookup returns: for segment `startNr + k` — if it is available at all — the source is
VoD segment `k mod N`, the sequence number is `startNr + k`, the decode time is
`⌊k/N⌋·loopDuration + VoD start` and the duration is the VoD segment's. -/
theorem c01_source (a : Asset) (r : Rep) (cfg : Cfg) (k nowMS : Nat) (m : Meta)
    (h : byNr a r cfg (cfg.startNr + k) nowMS = .found m) :
    m.origIdx = k % r.N ∧ m.origNr = (r.seg (k % r.N)).nr ∧ m.origTime = (r.seg (k % r.N)).start ∧
    m.newNr = (cfg.startNr + k) % 2^32 ∧ m.newTime = S a r k ∧
    m.newDur = ((r.seg (k % r.N)).stop - (r.seg (k % r.N)).start) % 2^32 := by
  rw [byNr_eq a r cfg k nowMS (byNr_found_pos _ _ _ _ _ _ h), answer_eq_found] at h
  rw [← h.2]
  exact ⟨rfl, rfl, rfl, rfl, rfl, rfl⟩

/-- Availability of a `$Number$` lookup is decided by the spec's segment end `E a r k` (plus stream start). -/
theorem c01_byNr_avail (a : Asset) (r : Rep) (cfg : Cfg) (k nowMS : Nat) (hN : 0 < r.N) :
    (∃ m, byNr a r cfg (cfg.startNr + k) nowMS = .found m) ↔
      checkTime (E a r k + cfg.startS * r.T) r.T nowMS cfg.tsbdS cfg.ato = .ok := by
  rw [byNr_eq a r cfg k nowMS hN]
  exact ⟨fun ⟨_, hm⟩ => (answer_eq_found.mp hm).1, fun hok => ⟨_, answer_eq_found.mpr ⟨hok, rfl⟩⟩⟩

/-- **Same segment by `$Number$` and by `$Time$`**: addressing output segment k by its start time gives
exactly the lookup result of addressing it by its number. -/
theorem c01_time_eq_number (a : Asset) (r : Rep) (cfg : Cfg) (h : Contig r) (hc : Closes a r) (k nowMS : Nat) :
    byTime a r cfg (S a r k) nowMS = byNr a r cfg (cfg.startNr + k) nowMS := by
  rw [byTime_S a r cfg h hc, byNr_eq a r cfg k nowMS h.1]

/-- **No second URL for a segment**: a `$Time$` lookup succeeds only for the start time of an output segment,
and that segment is determined by the time. -/
theorem c01_time_unique (a : Asset) (r : Rep) (cfg : Cfg) (t nowMS : Nat) (m : Meta)
    (h : byTime a r cfg t nowMS = .found m) :
    m.origIdx < r.N ∧ t = (t / wrapDur a r) * wrapDur a r + (r.seg m.origIdx).start ∧ m.newTime = t := by
  obtain ⟨hi, hs, ht⟩ := byTime_found a r cfg t nowMS m h
  exact ⟨hi, by rw [hs, Nat.div_add_mod'], ht⟩

/-- non-vacuity: `exRep` / `exAsset` (`testpic_2s` V300) satisfy the hypotheses; segment 5 is VoD segment 1 shifted by one
loop. -/
example : Closes exAsset exRep := by
  unfold Closes
  decide
example : Contig exRep :=
  ⟨by decide, by decide, fun i hi =>
    (by decide : ∀ i, i < exRep.N - 1 → (exRep.seg i).stop = (exRep.seg (i + 1)).start) i (Nat.lt_sub_of_add_lt hi)⟩
example : byNr exAsset exRep Cfg.default 5 20000 =
    .found { origIdx := 1, origNr := 2, origTime := 180000, newNr := 5, newTime := 900000, newDur := 180000, T := 90000 } := by
  decide
example : byTime exAsset exRep Cfg.default 900000 20000 = byNr exAsset exRep Cfg.default 5 20000 := by
  decide

end Core

/-! ## TTML clause: embedded timestamps move by the same offset as the decode time

`Model/Ttml.lean` models `shiftStppTimes`' conversion of the decode-time shift to milliseconds, the scan for timestamps
(`timeExp`, leftmost-first) and `shiftTimestamp`; ops `ttml` and `tshift` tie it to the code. -/
namespace Ttml

/-- **A rewritten timestamp denotes exactly the old instant plus the shift**: the four fields written for `x` ms
(`%02d:%02d:%02d.%03d`) read back as `x`, for every `x` (hours of any size). -/
theorem c01_ttml_fields_exact (x : Nat) : toMS (fields x) = x := by
  show x / 3600000 * 3600000 + x % 3600000 / 60000 * 60000 + x % 60000 / 1000 * 1000 + x % 1000 = x
  -- each field is quotient and remainder of the remainder before it: fold them up from the right
  rw [← Nat.mod_mod_of_dvd x (by decide : 1000 ∣ 60000), Nat.add_assoc, Nat.div_add_mod',
    ← Nat.mod_mod_of_dvd x (by decide : 60000 ∣ 3600000), Nat.add_assoc, Nat.div_add_mod', Nat.div_add_mod']

/-- … and they are a normal clock reading: minutes and seconds below 60, milliseconds below 1000. -/
theorem c01_ttml_fields_normal (x : Nat) :
    (fields x).2.1 < 60 ∧ (fields x).2.2.1 < 60 ∧ (fields x).2.2.2 < 1000 :=
  ⟨Nat.div_lt_of_lt_mul (Nat.mod_lt x (by decide)), Nat.div_lt_of_lt_mul (Nat.mod_lt x (by decide)),
    Nat.mod_lt x (by decide)⟩

/-- without `uint64` overflow (instants below 2⁶⁴ ms, i.e. 584 million years) the shifted value is the plain sum -/
theorem c01_ttml_no_wrap (v d : Nat) (h : v + d < 18446744073709551616) : wrap (wrap v + d) = v + d := by
  rw [wrap, wrap, Nat.mod_eq_of_lt (Nat.lt_of_le_of_lt (Nat.le_add_right v d) h), Nat.mod_eq_of_lt h]

/-- **The shift applied to the text equals the shift applied to the decode time.**  The decode time of loop `w` moves
by `w · dur` ticks; for every asset that is admitted (`loopMS · T = 1000 · dur`) the millisecond shift computed by
`shiftStppTimes` is exactly `w · loopMS`, the same instant, for every loop count and timescale. -/
theorem c01_ttml_shift_is_decode_shift (w dur loopMS T : Nat) (hT : 0 < T) (hadm : loopMS * T = 1000 * dur) :
    stppShiftMS (w * dur) T = w * loopMS := by
  unfold stppShiftMS
  have e : 2 * (w * dur) * 1000 = 2 * T * (w * loopMS) := by
    rw [Nat.mul_assoc 2, Nat.mul_assoc w, Nat.mul_comm dur, ← hadm, Nat.mul_assoc 2 T, Nat.mul_left_comm T, Nat.mul_comm T]
  rw [e, Nat.mul_add_div (Nat.mul_pos (by decide) hT), Nat.div_eq_of_lt (by omega), Nat.add_zero]

/-- in general the shift is the decode-time shift rounded to the nearest millisecond -/
theorem c01_ttml_shift_rounds (ts T : Nat) (hT : 0 < T) :
    2 * T * stppShiftMS ts T ≤ 2 * ts * 1000 + T ∧ 2 * ts * 1000 + T < 2 * T * (stppShiftMS ts T + 1) :=
  ⟨Nat.mul_div_le _ _, Nat.lt_mul_div_succ _ (Nat.mul_pos (by decide) hT)⟩

/-- `shiftTTML` on a document given by its characters.  The kernel reads a string literal as `String.ofList [..]`, so
through this equation a test vector is evaluated on character lists; unfolding `String.toList` and `String.length` on
the literal, and comparing the resulting strings, works on UTF-8 bytes and takes several times as long. -/
theorem shiftTTML_ofList (cs : List Char) (shift : Nat) :
    shiftTTML (String.ofList cs) shift = String.ofList (shiftAll shift cs.length cs) := by
  rw [shiftTTML, String.toList_ofList, String.length_ofList]

/-- non-vacuity: a document with two timestamps (one without fraction) shifted by one 8.008 s loop; text outside the
timestamps is untouched; a one-digit hour does not match (`1:02:03` → only `02:03:…` could, and does not) -/
example : shiftTTML "<p begin=\"00:00:01.500\" end=\"00:00:59\">1:02:03</p>" 8008
    = "<p begin=\"00:00:09.508\" end=\"00:01:07.008\">1:02:03</p>" :=
  (shiftTTML_ofList _ 8008).trans (congrArg String.ofList (by decide))
example : stppShiftMS 8008 1000 = 8008 ∧ stppShiftMS (3 * 720720) 90000 = 3 * 8008 := by decide

end Ttml
