import LivesimVerif.Gen.Access
/-!
# C07 — livesim2 responses are a pure function of (URL, time) and race-free

In the Lean models of the request handlers (`Model/Core`, `Mpd`, `Audio`, `Chunk`, `Patch`, `Cfg`, …) a response *is* a
function of the configuration, the instant and the loaded asset tables: there is nothing else it could depend on.  What
ties that to the Go code for this property is a frame condition — serving requests does not change the state the
handlers read — decided here over tables regenerated from the source on every run (`Gen/Access.lean`):

* `c07_asset_state_written_only_at_load`: every assignment to a field of `assetMgr`, `asset`, `RepData`, `repEncData`
  and `Server` is in a function that runs while the server is set up (listed), none in a request path;
* `c07_globals_reviewed`: the package-level variables of all anchored packages are exactly the reviewed set, and the only
  functions that assign to one are `init` functions — a new global (a cache, a scratch buffer) breaks this until reviewed;
* `c07_ingester_tables_locked`: the ingest manager's session tables and a session's state and report, the only
  state that API requests do change, are reached only under their mutex.

Not proved: that the libraries (mp4ff, dash-mpd, etree) and the values reached through pointers stay unchanged, and
race-freedom of the real executions: the history-independence and concurrency monitor (also run under the race detector)
observes those.
-/
namespace Pure

abbrev Acc := String × String × String × String × Bool × String × Nat

def appAcc : List Acc := Gen.accesses.filter fun a => a.1 == "app"

/-- functions that run only while the server is being set up (asset discovery and loading, template compilation) -/
def loadTime : List String := ["assetMgr.addAsset", "assetMgr.discoverAssets", "assetMgr.loadAsset", "assetMgr.loadRep",
  "RepData.readInit", "RepData.readMP4Segment", "RepData.readThumbSegment", "RepData.addEncryption", "RepData.addRegExpAndInit",
  "RepData.loadFromJSON", "asset.consolidateAsset", "asset.setReferenceRep", "newAssetMgr", "SetupServer",
  "Server.compileTemplates", "fillContentTypes"]

def readOnlyStructs : List String := ["assetMgr", "asset", "RepData", "repEncData", "Server"]

/-- **Nothing that a request handler reads from the asset tables is assigned outside server set-up.** -/
theorem c07_asset_state_written_only_at_load :
    (appAcc.filter fun a => readOnlyStructs.contains a.2.1 && a.2.2.2.2.1).all (fun a => loadTime.contains a.2.2.2.1) = true := by
  decide +kernel

/-- the table does contain those structures (non-vacuity) -/
example : (appAcc.any fun a => a.2.1 == "RepData" && a.2.2.1 == "Segments" && a.2.2.2.2.1) = true ∧
    (appAcc.any fun a => a.2.1 == "asset" && a.2.2.1 == "Reps" && !a.2.2.2.2.1) = true := by decide +kernel

/-- the reviewed package-level variables: error sentinels, compiled regular expressions, constant tables and byte
prefixes, the embedded file system, defaults copied by value, and the two values built in `init` functions -/
def reviewedGlobals : List (String × String) := [
  ("app", "DefaultConfig"), ("app", "ErrAtoInfTimeline"), ("app", "audioCodecPrefixes"), ("app", "content"),
  ("app", "defaultBuckets"), ("app", "defaultIV"), ("app", "errBadConfig"), ("app", "errGone"), ("app", "errNotFound"), ("app", "errUploadAborted"),
  ("app", "initData"), ("app", "keyStart"), ("app", "kidStart"), ("app", "prometheusMW"), ("app", "textCodecPrefixes"),
  ("app", "timeExp"), ("app", "videoCodecPrefixes"),
  ("patch", "ErrPatchSamePublishTime"), ("patch", "ErrPatchTooLate"),
  ("recv", "extFromMediaType"), ("recv", "mimeTypeFromMediaType"), ("recv", "mpdRegexp"), ("recv", "segmentRegexp"),
  ("recv", "streamsRegexp"), ("recv", "usg")]

def globalsSeen : List (String × String) := (Gen.globalRefs.map fun g => (g.1, g.2.1)).eraseDups

/-- **The package-level variables are exactly the reviewed ones, and only `init` functions assign to them.** -/
theorem c07_globals_reviewed :
    globalsSeen.all (fun g => reviewedGlobals.contains g) = true ∧
    (Gen.globalRefs.filter fun g => g.2.2.2.2).all (fun g => g.2.2.2.1 == "init") = true := by decide +kernel

/-- **The ingest tables, the only state API requests change, are reached only under their mutex.** -/
theorem c07_ingester_tables_locked :
    (appAcc.filter fun a => (a.2.1 == "cmafIngesterMgr" && (a.2.2.1 == "ingesters" || a.2.2.1 == "cancels")) ||
        (a.2.1 == "cmafIngester" && (a.2.2.1 == "state" || a.2.2.1 == "report"))).all
      (fun a => a.2.2.2.2.2.1 == "W") = true := by decide +kernel

end Pure
