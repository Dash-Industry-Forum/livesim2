import LivesimVerif.Model.Core
/-!
# C04 — Each segment goes too-early → available → gone, at exactly the right instants

`Core.checkTime` is `CheckTimeValidity` in exact arithmetic; `availNum / T` seconds is the availability instant
*before* the offset (segment end + wraps + availabilityStartTime, in ticks).  All theorems quantify over every
tick count, timescale, instant, buffer depth and offset.
-/
namespace Core

/-- the phase of an answer: 0 = 425, 1 = 200, 2 = 410 -/
def phase : Status → Nat
  | .tooEarly _ => 0
  | .ok => 1
  | .gone => 2
  | _ => 3

/-- availability instant minus offset, scaled by 1000·T (exact) -/
def availScaled (availNum T a : Nat) : Int := (availNum : Int) * 1000 - (a : Int) * T
/-- request instant scaled by 1000·T -/
def nowScaled (nowMS T : Nat) : Int := (nowMS : Int) * T
/-- window length (tsbd + margin) scaled by 1000·T -/
def windowScaled (tsbdS T : Nat) : Int := ((tsbdS + marginS : Nat) : Int) * 1000 * T

/-- `checkTime` with a finite offset, as comparisons of the scaled instants -/
theorem checkTime_ms (availNum T nowMS tsbdS a : Nat) :
    checkTime availNum T nowMS tsbdS (.ms a) =
      if nowScaled nowMS T < availScaled availNum T a then
        .tooEarly (((2 * (availScaled availNum T a - nowScaled nowMS T) + T) / (2 * T)).toNat)
      else if availScaled availNum T a + windowScaled tsbdS T < nowScaled nowMS T then .gone else .ok := by
  unfold checkTime availScaled nowScaled windowScaled
  simp only [gt_iff_lt, Int.lt_sub_right_iff_add_lt]

theorem phase_checkTime (availNum T nowMS tsbdS a : Nat) :
    phase (checkTime availNum T nowMS tsbdS (.ms a)) =
      if nowScaled nowMS T < availScaled availNum T a then 0
      else if availScaled availNum T a + windowScaled tsbdS T < nowScaled nowMS T then 2 else 1 := by
  rw [checkTime_ms, apply_ite phase, apply_ite phase]
  rfl

theorem windowScaled_nonneg (tsbdS T : Nat) : 0 ≤ windowScaled tsbdS T :=
  Int.mul_nonneg (Int.mul_nonneg (Int.natCast_nonneg _) (by decide)) (Int.natCast_nonneg _)

/-- **Exact availability**: with a finite offset the answer is 200 iff
`avail − ato ≤ now ≤ avail − ato + tsbd + margin` (all in exact arithmetic). -/
theorem c04_available_iff (availNum T nowMS tsbdS a : Nat) :
    checkTime availNum T nowMS tsbdS (.ms a) = .ok ↔
      availScaled availNum T a ≤ nowScaled nowMS T ∧
      nowScaled nowMS T ≤ availScaled availNum T a + windowScaled tsbdS T := by
  rw [checkTime_ms]
  by_cases h1 : nowScaled nowMS T < availScaled availNum T a
  · rw [if_pos h1]; exact ⟨nofun, fun h => absurd h1 (Int.not_lt.mpr h.1)⟩
  · rw [if_neg h1]
    by_cases h2 : availScaled availNum T a + windowScaled tsbdS T < nowScaled nowMS T
    · rw [if_pos h2]; exact ⟨nofun, fun h => absurd h2 (Int.not_lt.mpr h.2)⟩
    · rw [if_neg h2]; exact ⟨fun _ => ⟨Int.not_lt.mp h1, Int.not_lt.mp h2⟩, fun _ => rfl⟩

/-- 425 exactly before the availability instant, 410 exactly after the window. -/
theorem c04_too_early_iff (availNum T nowMS tsbdS a : Nat) :
    phase (checkTime availNum T nowMS tsbdS (.ms a)) = 0 ↔ nowScaled nowMS T < availScaled availNum T a := by
  rw [phase_checkTime]
  by_cases h1 : nowScaled nowMS T < availScaled availNum T a
  · rw [if_pos h1]; exact ⟨fun _ => h1, fun _ => rfl⟩
  · rw [if_neg h1]; exact ⟨fun h => (by split at h <;> cases h), fun h => absurd h h1⟩

theorem c04_gone_iff (availNum T nowMS tsbdS a : Nat) :
    checkTime availNum T nowMS tsbdS (.ms a) = .gone ↔
      availScaled availNum T a + windowScaled tsbdS T < nowScaled nowMS T := by
  rw [checkTime_ms]
  by_cases h1 : nowScaled nowMS T < availScaled availNum T a
  · -- before the availability instant, hence not after the window, which does not end before that instant
    rw [if_pos h1]
    exact ⟨nofun, fun h => absurd (Int.lt_trans h h1)
      (Int.not_lt.mpr (Int.le_add_of_nonneg_right (windowScaled_nonneg tsbdS T)))⟩
  · rw [if_neg h1]
    by_cases h2 : availScaled availNum T a + windowScaled tsbdS T < nowScaled nowMS T
    · rw [if_pos h2]; exact ⟨fun _ => h2, fun _ => rfl⟩
    · rw [if_neg h2]; exact ⟨nofun, fun h => absurd h h2⟩

/-- **Monotone phases**: for a fixed segment, as wall-clock time increases the answer only moves
425 → 200 → 410 and never back. -/
theorem c04_monotone (availNum T tsbdS : Nat) (ato : Ato) (now₁ now₂ : Nat) (h : now₁ ≤ now₂) :
    phase (checkTime availNum T now₁ tsbdS ato) ≤ phase (checkTime availNum T now₂ tsbdS ato) := by
  have hn : nowScaled now₁ T ≤ nowScaled now₂ T :=
    Int.mul_le_mul_of_nonneg_right (Int.ofNat_le.mpr h) (Int.natCast_nonneg _)
  -- by the answer at `now₁`; a comparison that has turned at `now₁` has turned at `now₂`
  fun_cases checkTime availNum T now₁ tsbdS ato with
  | case1 => exact Nat.le_refl _
  | case2 => exact Nat.zero_le _
  | case3 a av nw _ h2 =>
    rw [(c04_gone_iff availNum T now₂ tsbdS a).mpr (Int.lt_of_lt_of_le (Int.lt_sub_right_iff_add_lt.mp h2) hn)]
    exact Nat.le_refl _
  | case4 a av nw h1 =>
    exact Nat.pos_of_ne_zero fun h0 => h1 (Int.lt_of_le_of_lt hn ((c04_too_early_iff availNum T now₂ tsbdS a).mp h0))

/-- Available for at least timeShiftBufferDepth after the availability instant. -/
theorem c04_at_least_tsbd (availNum T nowMS tsbdS a : Nat)
    (h1 : availScaled availNum T a ≤ nowScaled nowMS T)
    (h2 : nowScaled nowMS T ≤ availScaled availNum T a + (tsbdS : Int) * 1000 * T) :
    checkTime availNum T nowMS tsbdS (.ms a) = .ok := by
  rw [c04_available_iff]
  refine ⟨h1, Int.le_trans h2 (Int.add_le_add_left ?_ _)⟩
  exact Int.mul_le_mul_of_nonneg_right
    (Int.mul_le_mul_of_nonneg_right (Int.ofNat_le.mpr (Nat.le_add_right _ _)) (by decide)) (Int.natCast_nonneg _)

/-- An infinite offset makes the segment available at any instant (from stream start: the pre-check of the
handler refuses requests before availabilityStartTime). -/
theorem c04_inf_ato (availNum T nowMS tsbdS : Nat) : checkTime availNum T nowMS tsbdS .inf = .ok := rfl

/-- The 425 body states the remaining time rounded to the nearest millisecond:
`|ms·T − (avail − now)·1000·T| ≤ T/2` in the scaled units. -/
theorem c04_remaining_ms (availNum T nowMS tsbdS a ms : Nat) (hT : 0 < T)
    (h : checkTime availNum T nowMS tsbdS (.ms a) = .tooEarly ms) :
    let d := availScaled availNum T a - nowScaled nowMS T
    2 * ((ms : Int) * T) ≤ 2 * d + T ∧ 2 * d + T < 2 * ((ms : Int) * T) + 2 * T := by
  have hlt := (c04_too_early_iff availNum T nowMS tsbdS a).mp (congrArg phase h)
  rw [checkTime_ms, if_pos hlt] at h
  injection h with h
  intro d
  -- `ms` is the quotient of `2d + T` by `2T`, which is not negative
  have hT' : (0 : Int) < 2 * T := Int.mul_pos (by decide) (Int.natCast_pos.mpr hT)
  have hms : (ms : Int) = (2 * d + T) / (2 * T) := by
    rw [← h]
    exact Int.toNat_of_nonneg (Int.ediv_nonneg
      (Int.add_nonneg (Int.mul_nonneg (by decide) (Int.le_of_lt (Int.sub_pos.mpr hlt))) (Int.natCast_nonneg _))
      (Int.le_of_lt hT'))
  rw [hms, Int.mul_comm _ (T : Int), ← Int.mul_assoc]
  exact ⟨Int.mul_ediv_self_le (Int.ne_of_gt hT'), Int.lt_mul_ediv_self_add hT'⟩

/-- 404: a number below startNumber is refused before any table lookup (video/text/image path). -/
theorem c04_404_below_startnr (a : Asset) (r : Rep) (cfg : Cfg) (segId nowMS : Nat)
    (hm : cfg.mpdType ≠ .timelineTime ∨ r.kind = .image)
    (h : segId % 4294967296 < cfg.startNr % 4294967296) :
    lookupVideo a r cfg segId nowMS = .status .notFound := by
  fun_cases lookupVideo a r cfg segId nowMS with
  | case1 ty hty =>
    -- not reached: an image is addressed by number, and so is any other representation under `hm`
    by_cases hi : r.kind = .image
    · exact absurd ((if_pos hi).symm.trans hty) nofun
    · exact absurd ((if_neg hi).symm.trans hty) (hm.resolve_right hi)
  | case2 => rfl
  | case3 ty nr hnr => exact absurd h hnr

/-- non-vacuity: a 2 s segment ending at 4 s, 90 kHz, tsbd 60: too early by 1 ms at 3999, 200 at 4000 and
at 74000, gone at 74001. -/
example : checkTime 360000 90000 3999 60 (.ms 0) = .tooEarly 1 := by decide
example : checkTime 360000 90000 4000 60 (.ms 0) = .ok := by decide
example : checkTime 360000 90000 74000 60 (.ms 0) = .ok := by decide
example : checkTime 360000 90000 74001 60 (.ms 0) = .gone := by decide

end Core
