import LivesimVerif.Model.Chunk
import LivesimVerif.Lemmas.List
/-!
# C09 — Low-latency chunked delivery is the same media, never delivered early

`Chunk.chunkSegment` models the sample loop of `chunkSegment` for every list of sample durations and every positive
chunk duration.  The byte-level clause (same samples as the whole segment) is mp4ff's and is checked by parsing both
responses (monitor).  Timing: `pace` with an arbitrary clock; `sleep` returns after at least the requested time.
-/
namespace Chunk

/-- what the sample loop keeps: the samples seen are those of the closed chunks and of the open one, and so are their
durations; closed chunks are non-empty and carry their real duration; the open chunk has samples exactly when it has
duration (this is where positive sample durations are needed) -/
structure Inv (cd : Nat) (seen : List Nat) (s : St) : Prop where
  count : (s.done.map (·.n)).foldl (· + ·) 0 + s.curN = seen.length
  nonempty : ∀ c ∈ s.done, 0 < c.n
  open_pos : s.curDur > 0 → s.curN > 0
  open_dur : s.curN > 0 → s.curDur > 0
  total : s.total = (seen.foldl (· + ·) 0)
  realsum : (s.done.map (·.real)).foldl (· + ·) 0 + s.curDur = s.total
  closed : ∀ c ∈ s.done, c.dur = c.real

theorem foldl_add_shift (l : List Nat) (a b : Nat) : l.foldl (· + ·) (a + b) = l.foldl (· + ·) a + b := by
  rw [Nat.add_comm a b, List.foldl_assoc, Nat.add_comm]

theorem foldl_add_append (l : List Nat) (x : Nat) : (l ++ [x]).foldl (· + ·) 0 = l.foldl (· + ·) 0 + x := by
  simp [List.foldl_append]

theorem sum_map_concat (f : Ch → Nat) (l : List Ch) (c : Ch) :
    ((l ++ [c]).map f).foldl (· + ·) 0 = (l.map f).foldl (· + ·) 0 + f c := by
  rw [List.map_append, List.map_singleton, foldl_add_append]

theorem forall_mem_concat {p : Ch → Prop} {l : List Ch} {c : Ch} : (∀ x ∈ l ++ [c], p x) ↔ (∀ x ∈ l, p x) ∧ p c := by
  rw [List.forall_mem_append, List.forall_mem_singleton]

theorem inv_step (cd : Nat) (seen : List Nat) (s : St) (d : Nat) (hd : 0 < d) (h : Inv cd seen s) :
    Inv cd (seen ++ [d]) (stepSample cd s d) := by
  have htotal : s.total + d = (seen ++ [d]).foldl (· + ·) 0 := by rw [foldl_add_append, h.total]
  -- `s1`, the state with the sample added, is a local definition in both alternatives: `simp only [s1]` unfolds it
  fun_cases stepSample cd s d with
  | case1 s1 hc =>   -- the sample closes the chunk
    exact {
      count := by simp only [sum_map_concat, List.length_append, List.length_singleton, ← h.count]; rfl
      nonempty := forall_mem_concat.mpr ⟨h.nonempty, Nat.succ_pos _⟩
      open_pos := fun hp => absurd hp (Nat.lt_irrefl _)
      open_dur := fun hp => absurd hp (Nat.lt_irrefl _)
      total := htotal
      realsum := by simp only [s1, sum_map_concat, ← h.realsum]; exact (Nat.add_assoc ..).symm
      closed := forall_mem_concat.mpr ⟨h.closed, rfl⟩ }
  | case2 s1 hc =>
    exact {
      count := by simp only [List.length_append, List.length_singleton, ← h.count]; rfl
      nonempty := h.nonempty
      open_pos := fun _ => Nat.succ_pos _
      open_dur := fun _ => Nat.add_pos_right _ hd
      total := htotal
      realsum := by simp only [s1, ← h.realsum]; exact (Nat.add_assoc ..).symm
      closed := h.closed }

abbrev final (durs : List Nat) (cd : Nat) : St :=
  durs.foldl (stepSample cd) { done := [], curN := 0, curDur := 0, total := 0, nr := 1 }

theorem inv_final (durs : List Nat) (cd : Nat) (hpos : ∀ d ∈ durs, 0 < d) : Inv cd durs (final durs cd) :=
  List.foldl_inv _ (Inv cd) durs (fun seen s d hd h => inv_step cd seen s d (hpos d hd) h) [] _
    { count := rfl, nonempty := nofun, open_pos := nofun, open_dur := nofun, total := rfl, realsum := rfl, closed := nofun }

/-- **Partition**: the chunks contain every sample exactly once, in order (sample counts add up to the number of
samples), no chunk is empty, and the real media durations of the chunks add up to the segment duration. -/
theorem c09_partition (durs : List Nat) (cd : Nat) (hpos : ∀ d ∈ durs, 0 < d) :
    ((chunkSegment durs cd).map (·.n)).foldl (· + ·) 0 = durs.length ∧
    (∀ c ∈ chunkSegment durs cd, 0 < c.n) ∧
    ((chunkSegment durs cd).map (·.real)).foldl (· + ·) 0 = durs.foldl (· + ·) 0 := by
  -- `s` is the state after the sample loop; `chunkSegment` closes the open chunk, if there is one
  fun_cases chunkSegment durs cd with
  | case1 s hp =>
    have inv : Inv cd durs s := inv_final durs cd hpos
    rw [sum_map_concat, sum_map_concat, inv.realsum, inv.total]
    exact ⟨inv.count, forall_mem_concat.mpr ⟨inv.nonempty, inv.open_pos hp⟩, rfl⟩
  | case2 s hp =>
    have inv : Inv cd durs s := inv_final durs cd hpos
    have hn : s.curN = 0 := Nat.eq_zero_of_not_pos fun h => hp (inv.open_dur h)
    exact ⟨by have := inv.count; omega, inv.nonempty, by have := inv.realsum; rw [← inv.total]; omega⟩

/-- second invariant: the open chunk starts at or after the previous multiple of `cd` and, while it has media in
it, has not reached the next one; every closed chunk spans less than `cd` plus one sample -/
structure Inv2 (cd M : Nat) (s : St) : Prop where
  start : cd * s.nr + s.curDur ≤ s.total + cd      -- `cd·(nr − 1) ≤ total − curDur`, free of subtraction
  open_lt : s.curDur > 0 → s.total < cd * s.nr
  span : ∀ c ∈ s.done, c.real < cd + M

theorem Inv2.open_span {cd M : Nat} {s : St} (h : Inv2 cd M s) (hp : s.curDur > 0) : s.curDur < cd := by
  have h1 := h.open_lt hp
  have h2 := h.start
  omega

theorem inv2_step (cd M : Nat) (s : St) (d : Nat) (hM : d ≤ M) (hcd : 0 < cd) (h : Inv2 cd M s) :
    Inv2 cd M (stepSample cd s d) := by
  fun_cases stepSample cd s d with
  | case1 s1 hc =>
    have hspan : s.curDur + d < cd + M := by
      by_cases hz : s.curDur = 0
      · omega
      · have := h.open_span (Nat.pos_of_ne_zero hz); omega
    exact { start := by rw [Nat.mul_succ]; exact Nat.add_le_add_right hc cd, open_lt := nofun,
            span := forall_mem_concat.mpr ⟨h.span, hspan⟩ }
  | case2 s1 hc =>
    exact { start := by have := h.start; simp only [s1]; omega, open_lt := fun _ => Nat.lt_of_not_le hc, span := h.span }

/-- **No chunk spans more media time than the chunk duration plus one sample** (`M` bounds the sample durations). -/
theorem c09_span_bound (durs : List Nat) (cd M : Nat) (hcd : 0 < cd) (hpos : ∀ d ∈ durs, 0 < d) (hM : ∀ d ∈ durs, d ≤ M) :
    ∀ c ∈ chunkSegment durs cd, c.real < cd + M := by
  have i2 : Inv2 cd M (final durs cd) :=
    List.foldl_inv _ (fun _ => Inv2 cd M) durs (fun _ s d hd h => inv2_step cd M s d (hM d hd) hcd h) [] _
      { start := by show cd * 1 + 0 ≤ 0 + cd; omega, open_lt := nofun, span := nofun }
  fun_cases chunkSegment durs cd with
  | case1 s hp => exact forall_mem_concat.mpr ⟨i2.span, Nat.lt_add_right M (i2.open_span hp)⟩
  | case2 => exact i2.span

/-- **… than the advertised availabilityTimeOffset leaves**: with the chunk duration derived from the offset
(`chunkDurTicks`, tied by the handler-level monitor on real chunked responses), every chunk lasts less than
`(segment duration − offset)` in ticks plus one sample. -/
theorem c09_span_vs_offset (durs : List Nat) (segDurMS atoMS T M : Nat) (hcd : 0 < chunkDurTicks segDurMS atoMS T)
    (hpos : ∀ d ∈ durs, 0 < d) (hM : ∀ d ∈ durs, d ≤ M) :
    ∀ c ∈ chunkSegment durs (chunkDurTicks segDurMS atoMS T), c.real * 1000 < (segDurMS - atoMS) * T + M * 1000 := by
  intro c hc
  have h := c09_span_bound durs _ M hcd hpos hM c hc
  have hd : chunkDurTicks segDurMS atoMS T * 1000 ≤ (segDurMS - atoMS) * T := by
    unfold chunkDurTicks; exact Nat.div_mul_le_self _ _
  omega

/-- every closed chunk advances the pacing clock by its real duration; only the tail chunk by `chunkDur` (late, never early) -/
theorem c09_dur_field (durs : List Nat) (cd : Nat) (hpos : ∀ d ∈ durs, 0 < d) :
    ∀ c ∈ (chunkSegment durs cd).dropLast, c.dur = c.real := by
  have inv := inv_final durs cd hpos
  fun_cases chunkSegment durs cd with
  | case1 =>
    rw [List.dropLast_concat]
    exact inv.closed
  | case2 => exact fun c hc => inv.closed c (List.dropLast_subset _ hc)

/-- pointwise `≤` of two lists of the same length -/
def AllLe : List Nat → List Nat → Prop
  | [], [] => True
  | e :: es, w :: ws => e ≤ w ∧ AllLe es ws
  | _, _ => False

/-- **Never early**: whatever the clock readings, every chunk is written at a simulated instant that is not before
its availability instant (a sleep returns after at least the requested time). -/
theorem c09_not_early (now : Nat) (ends clk slack : List Nat) : AllLe ends (pace now ends clk slack) := by
  fun_induction pace now ends clk slack with
  | case1 => exact trivial
  | case2 e ends clk slack h1 ih => exact ⟨Nat.le_of_lt h1, ih⟩   -- already past: written at once
  | case3 e ends clk slack h1 c upd h2 ih => exact ⟨Nat.le_of_lt h2, ih⟩   -- past after re-reading the clock
  | case4 e ends clk slack h1 c upd h2 ih => exact ⟨by omega, ih⟩   -- after `sleep (e − upd)`

/-- non-vacuity: 60 samples of 3600 ticks (2 s at 90 kHz), chunk duration 0.5 s = 45000 ticks:
chunks of 13,12,13,12 samples …; AAC frames of 1024 ticks with chunk duration 2400: spans 3072,2048,… -/
example : (chunkSegment (List.replicate 10 1024) 2400).map (fun c => (c.n, c.dur)) = [(3, 3072), (2, 2048), (3, 3072), (2, 2048)] := by
  decide

example : (chunkSegment (List.replicate 5 1024) 2400).map (fun c => (c.n, c.dur, c.real)) = [(3, 3072, 3072), (2, 2048, 2048)] := by decide
example : (chunkSegment (List.replicate 4 1024) 2400).map (fun c => (c.n, c.dur, c.real)) = [(3, 3072, 3072), (1, 2400, 1024)] := by decide

end Chunk
