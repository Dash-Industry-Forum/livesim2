import LivesimVerif.Model.AssetLoad
import LivesimVerif.Gen.Tables
/-!
# C15 — The representation-metadata cache never changes what is served

Proved here:

* admission (`consolidateAsset`, model `Model/AssetLoad.lean`, tied by the op `cons`): an admitted asset has a reference
  representation whose duration is *exactly* the loop duration, and so has every other representation that is looped
  as it is (all but re-segmented audio): the wrap offset the segment handlers compute equals its real duration (no gap or
  overlap at a loop wrap); an asset whose reference duration is not a whole number of milliseconds is left out;
* persistence (regenerated `Gen/Tables.lean`): every field of `RepData` is either written to the metadata file or
  assigned again by the functions that run after a cache load, and the only `Segment` field that is not persisted is
  mentioned by the scanning functions only — so a cache-loaded representation has every field a scanned one has;
* the segment table that `loadRep` builds (`c15_table_starts`, `c15_table_contiguous`, `c15_table_last`) and the
  thumbnail table (`c15_thumbs_contiguous`): each segment starts where the previous one ends.

That a server started from the files answers every request as the scanning server does — also when files are missing,
truncated or corrupt — and that writing is idempotent, is checked by the monitor on real server instances.
-/
namespace Load

theorem pickRef_mem (reps : List RepD) (r : RepD) (h : pickRef reps = some r) : r ∈ reps := by
  unfold pickRef at h
  split at h
  · next x hx => injection h with h; subst h; exact List.mem_of_find?_eq_some hx
  · exact List.mem_of_find?_eq_some h

/-- what admission establishes: the one place where `consolidate` is taken apart -/
theorem consolidate_some {reps : List RepD} {loop : Nat} {id : String} (h : consolidate reps = some (loop, id)) :
    ∃ ref, pickRef reps = some ref ∧ ref.id = id ∧ loop * ref.ts = 1000 * ref.dur ∧
      ∀ r ∈ reps, compared ref r = true → loop * r.ts = 1000 * r.dur := by
  unfold consolidate at h
  split at h
  · cases h
  · next ref href =>
    simp at h
    obtain ⟨he, hall, rfl, hid⟩ := h
    exact ⟨ref, href, hid, he, fun r hr hc => (hall r hr hc).1 ▸ (hall r hr hc).2⟩

theorem wrapDur_exact {loop : Nat} {r : RepD} (h : loop * r.ts = 1000 * r.dur) : wrapDur loop r = r.dur := by
  rw [wrapDur, h]; exact Nat.mul_div_cancel_left _ (by omega)

/-- **The reference representation's duration is exactly the loop duration**, and the wrap offset computed from the
loop duration is that duration. -/
theorem c15_ref_exact (reps : List RepD) (loop : Nat) (id : String) (h : consolidate reps = some (loop, id)) :
    ∃ ref ∈ reps, ref.id = id ∧ loop * ref.ts = 1000 * ref.dur ∧ (0 < ref.ts → wrapDur loop ref = ref.dur) := by
  obtain ⟨ref, href, hid, he, -⟩ := consolidate_some h
  exact ⟨ref, pickRef_mem reps ref href, hid, he, fun _ => wrapDur_exact he⟩

/-- **Every representation that is looped as it is (all but re-segmented audio) has exactly the loop duration**, so
its wrap offset equals its real duration: no gap or overlap at a loop wrap. -/
theorem c15_compared_exact (reps : List RepD) (loop : Nat) (id : String) (h : consolidate reps = some (loop, id))
    (r : RepD) (hr : r ∈ reps) (hts : 0 < r.ts) :
    ∃ ref ∈ reps, ref.id = id ∧ (compared ref r = true → loop * r.ts = 1000 * r.dur ∧ wrapDur loop r = r.dur) := by
  obtain ⟨ref, href, hid, -, hall⟩ := consolidate_some h
  exact ⟨ref, pickRef_mem reps ref href, hid, fun hc => ⟨hall r hr hc, wrapDur_exact (hall r hr hc)⟩⟩

/-- which representations that covers: everything that is not audio, the reference itself, and pre-encrypted audio -/
theorem compared_iff (ref r : RepD) : compared ref r = true ↔ (r.kind ≠ "audio" ∨ r.kind = ref.kind ∨ r.preEnc = true) := by
  unfold compared
  by_cases h1 : r.kind = "audio" <;> by_cases h2 : r.kind = ref.kind <;> cases r.preEnc <;> simp [h1, h2]

/-- **A reference duration that is not a whole number of milliseconds is refused.** -/
theorem c15_fractional_refused (reps : List RepD) (ref : RepD) (href : pickRef reps = some ref)
    (hfrac : (1000 * ref.dur) % ref.ts ≠ 0) : consolidate reps = none := by
  cases hc : consolidate reps with
  | none => rfl
  | some p =>
    obtain ⟨ref', href', -, he, -⟩ := consolidate_some (loop := p.1) (id := p.2) hc
    cases href.symm.trans href'
    exact absurd (he ▸ Nat.mul_mod_left _ _) hfrac

/-- non-vacuity: the bundled 8 s layout is admitted; a 90 kHz loop of 8 s + 200 ticks is refused -/
example : consolidate [⟨"A48", "audio", 384000, 48000, false⟩, ⟨"V300", "video", 720000, 90000, false⟩] = some (8000, "V300") := by decide
example : consolidate [⟨"V1", "video", 720200, 90000, false⟩] = none := by decide

/-- the inputs that were admitted before the `fix:` commit are now left out: a second video representation half a
millisecond longer than the loop, and a text representation shorter than the loop -/
example : consolidate [⟨"V1", "video", 720000, 90000, false⟩, ⟨"V2", "video", 720045, 90000, false⟩] = none ∧
    consolidate [⟨"T1", "text", 5000, 1000, false⟩, ⟨"V1", "video", 720000, 90000, false⟩] = none ∧
    consolidate [⟨"A1", "audio", 385024, 48000, false⟩, ⟨"V1", "video", 720000, 90000, false⟩] = some (8000, "V1") := by decide

/-! ## persistence table (regenerated from the struct definitions and the rebuild functions) -/

/-- a row `(field, json name, exported)` of `Gen.fields_*` is written to the metadata file: `encoding/json` writes the
exported fields whose tag is not `"-"` -/
def persisted (f : String × String × Bool) : Bool := f.2.2 && f.2.1 != "-"

/-- **Every `RepData` field is written to the file or assigned again after a load.** -/
theorem c15_repdata_fields_covered :
    Gen.fields_RepData.all (fun f => persisted f || Gen.rebuilt_RepData.contains f.1) = true := by decide +kernel

/-- **The only `Segment` field that is not persisted is used by the scanning functions only.** -/
theorem c15_segment_fields_covered :
    Gen.fields_Segment.all (fun f => persisted f || f.1 == "CommonSampleDur") = true ∧
    Gen.users_CommonSampleDur.all (fun fn => fn == "loadRep" || fn == "readMP4Segment") = true := by decide +kernel

/-! ## The loaded segment table is contiguous -/

theorem contig_cons (a : Nat × Nat) (l : List (Nat × Nat)) :
    ContigTable (a :: l) ↔ (∀ s ∈ l.head?.map (·.1), a.2 = s) ∧ ContigTable l := by
  cases l <;> simp [ContigTable]

/-- `loadByNumber` one segment at a time: the end becomes the next start, if there is one -/
theorem loadByNumber_cons (a : Nat × Nat) (l : List (Nat × Nat)) :
    loadByNumber (a :: l) = (a.1, (l.head?.map (·.1)).getD a.2) :: loadByNumber l := by
  cases l <;> rfl

theorem c15_table_starts (files : List (Nat × Nat)) : (loadByNumber files).map (·.1) = files.map (·.1) := by
  induction files with
  | nil => rfl
  | cons a l ih => rw [loadByNumber_cons, List.map_cons, ih, List.map_cons]

/-- **`$Number$` representations**: whatever the files say about their own ends (audio frames that overlap the next
segment's start, rounding in the packager), the loaded table is contiguous, keeps every start time, and ends where the
last file ends. -/
theorem c15_table_contiguous (files : List (Nat × Nat)) : ContigTable (loadByNumber files) := by
  induction files with
  | nil => trivial
  | cons a l ih =>
    -- the end written into `a` is the next loaded start, and the loaded starts are the files' starts
    have hhead : (loadByNumber l).head?.map (·.1) = l.head?.map (·.1) := by
      rw [← List.head?_map, c15_table_starts, List.head?_map]
    rw [loadByNumber_cons, contig_cons, hhead]
    exact ⟨fun s hs => by rw [Option.mem_def.mp hs]; rfl, ih⟩

theorem c15_table_last (files : List (Nat × Nat)) : (loadByNumber files).getLast? = files.getLast? := by
  induction files with
  | nil => rfl
  | cons a l ih => cases l <;> simp_all [loadByNumber_cons, List.getLast?_cons]

theorem contig_range' (f : Nat → Nat × Nat) (hf : ∀ k, (f k).2 = (f (k + 1)).1) (s n : Nat) :
    ContigTable ((List.range' s n).map f) := by
  induction n generalizing s with
  | zero => trivial
  | succ n ih =>
    rw [List.range'_succ, List.map_cons, contig_cons]
    exact ⟨by cases n <;> simp [List.range'_succ, hf], ih _⟩

theorem c15_thumbs_contiguous (n dur : Nat) : ContigTable (loadThumbs n dur) := by
  rw [loadThumbs, List.range_eq_range']
  exact contig_range' _ (fun k => (Nat.succ_mul k dur).symm) 0 n

example : loadByNumber [(0, 96256), (96000, 192512), (192000, 288000)] = [(0, 96000), (96000, 192000), (192000, 288000)] := by decide

end Load
