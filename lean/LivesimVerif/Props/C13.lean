import LivesimVerif.Lemmas.Scte
import LivesimVerif.Lemmas.List
/-!
# C13 — SCTE-35 events follow the per-minute schedule, each announced exactly once

Model: `Scte.createEmsgAhead` (`Model/Scte.lean`, with the `fix:` commit that also looks at the next minute's
first splice).  Spec: event j of minute m is announced at `announce T n m j = (60m + off_j − 7)·T` and must be
carried by the segment `(S, E]` that contains that instant.
-/
namespace Scte

/-- **Soundness**: an event is carried only by a segment whose interval `(s, e]` contains the announce
instant of a scheduled splice (offset 10/36/40/46 s of this minute, or 10 s of the next), and the event's
fields are those of that splice. -/
theorem c13_sound (s e T n : Nat) (x : Ev) (h : createEmsgAhead s e T n = .ev x) :
    ∃ sit, x = mkEv sit T n ∧ s < sit - lead * T ∧ sit - lead * T ≤ e ∧
      ((∃ o ∈ offsets n, sit = (s - s % (60 * T)) + o * T) ∨ sit = (s - s % (60 * T)) + 70 * T) := by
  cases hn : validN n with
  | false => rw [createEmsgAhead_of_invalid hn] at h; cases h
  | true =>
    rw [createEmsgAhead_of_valid hn] at h
    split at h
    · next sit hs =>
      have := firstHit_sound _ _ _ _ _ hs
      exact ⟨sit, (Res.ev.inj h).symm, this.2.1, this.2.2, (mem_candidates s T n sit).mp this.1⟩
    · cases h

/-- **Completeness** (segments of at most 10 s, as the property quantifies): if the announce instant of a
candidate splice lies in the segment's interval `(s, e]`, the segment carries exactly that event. -/
theorem c13_complete (s e T n sit : Nat) (hn : validN n = true) (hd : e ≤ s + 10 * T)
    (hm : sit ∈ candidates s T n) (hin : s < sit - lead * T ∧ sit - lead * T ≤ e) :
    createEmsgAhead s e T n = .ev (mkEv sit T n) := by
  rw [createEmsgAhead_of_valid hn, firstHit_unique s e T _ sit hm hin]
  intro y hy hyin
  -- candidates are at least 10 s apart: too far for two announce instants in one interval
  refine Decidable.byContradiction fun hxy => ?_
  rcases candidates_spaced s T n y sit hy hm hxy with h | h
  · exact Nat.lt_irrefl _ (Nat.lt_of_lt_of_le (window_close hd hyin hin) h)
  · exact Nat.lt_irrefl _ (Nat.lt_of_lt_of_le (window_close hd hin hyin) h)

/-- every scheduled announce instant inside `(s, e]` of a ≤ 10 s segment is that of a candidate:
the candidate list looks far enough (this is what the pre-fix code got wrong for the next minute). -/
theorem c13_schedule_covered (s e T n m o : Nat) (hT : 0 < T) (ho : o ∈ offsets n)
    (hd : e ≤ s + 10 * T) (hin : s < announce T m o ∧ announce T m o ≤ e) :
    spliceAt T m o ∈ candidates s T n := by
  rw [mem_candidates, minuteStart_eq, spliceAt]
  -- in whole seconds (`T` divided out) the hypotheses are linear
  have h1 : s / T + lead < 60 * m + o := Nat.add_lt_of_lt_sub ((Nat.div_lt_iff_lt_mul hT).mpr hin.1)
  have h2 : 60 * m + o ≤ s / T + 10 + lead := Nat.sub_le_iff_le_add.mp <| by
    have := (Nat.le_div_iff_mul_le hT).mpr (Nat.le_trans hin.2 hd)
    rwa [Nat.add_mul_div_right _ _ hT] at this
  have hov := offsets_mem n o ho
  generalize s / T = σ at h1 h2 ⊢
  -- only the first event (offset 10) of the next minute can be that close
  have : m = σ / 60 ∨ m = σ / 60 + 1 ∧ o = 10 := by unfold lead at h1 h2; omega
  rcases this with rfl | ⟨rfl, rfl⟩
  · exact .inl ⟨o, ho, Nat.add_mul ..⟩
  · exact .inr (by rw [← Nat.add_mul]; congr 1)

/-- Each announce instant is carried by exactly one segment of a gap-free segment sequence
(`S (k+1)` = end of segment k = start of segment k+1, from C01). -/
theorem c13_exactly_once (S : Nat → Nat) (hmono : ∀ k, S k < S (k+1)) (A : Nat) (h0 : S 0 < A) :
    ∃ k, (S k < A ∧ A ≤ S (k+1)) ∧ ∀ k', (S k' < A ∧ A ≤ S (k'+1)) → k' = k := by
  have hS : ∀ i j, i < j → S i < S j := fun i j h => lt_of_step (fun i _ => hmono i) h (Nat.lt_succ_self j)
  -- two intervals `(S a, S (a+1)]`, `(S b, S (b+1)]` that share a point: `S a < S (b+1)`
  have key : ∀ {a b}, S a < A → A ≤ S (b + 1) → a ≤ b := fun h1 h2 =>
    Nat.le_of_lt_succ ((lt_iff_of_strictMono hS).mp (Nat.lt_of_lt_of_le h1 h2))
  have ex : ∀ n, A ≤ S n → ∃ k, S k < A ∧ A ≤ S (k+1) := by
    intro n
    induction n with
    | zero => exact fun h => absurd h (Nat.not_le.mpr h0)
    | succ n ih => exact fun h => (Nat.lt_or_ge (S n) A).elim (fun hn => ⟨n, hn, h⟩) ih
  -- `S` grows by at least one per step, so it passes `A`
  obtain ⟨k, hk⟩ := ex A (le_self_of_step hmono A)
  exact ⟨k, hk, fun k' hk' => Nat.le_antisymm (key hk'.1 hk.2) (key hk.1 hk'.2)⟩

/-- Field consistency (the 64-bit product `splice·90000` must not overflow — at 90 kHz that is until year 2042):
id = splice second, event duration = ad duration, PTS = splice at 90 kHz mod 2^33,
break duration = ad duration at 90 kHz. -/
theorem c13_fields (sit T n : Nat) (hT : 0 < T) (hov : sit * 90000 < 2^64) :
    (mkEv sit T n).splice = sit ∧ (mkEv sit T n).id = (sit / T) % 2^32 ∧
    (mkEv sit T n).pts = (sit * 90000 / T) % 2^33 ∧ (mkEv sit T n).brk = adDurS n * 90000 ∧
    (mkEv sit T n).dur = (adDurS n * T) % 2^32 := by
  refine ⟨rfl, rfl, ?_, ?_, rfl⟩
  · show sit * 90000 % 2^64 / T % 2^33 = sit * 90000 / T % 2^33
    rw [Nat.mod_eq_of_lt hov]
  · show adDurS n * T * 90000 / T = adDurS n * 90000
    rw [Nat.mul_right_comm, Nat.mul_div_cancel _ hT]

/-- Only N ∈ {1,2,3} is accepted. -/
theorem c13_other_N_rejected (s e T n : Nat) : createEmsgAhead s e T n = .invalid ↔ ¬ (n = 1 ∨ n = 2 ∨ n = 3) := by
  rw [← validN_iff]
  cases hn : validN n with
  | false => rw [createEmsgAhead_of_invalid hn]; simp
  | true => rw [createEmsgAhead_of_valid hn]; split <;> simp

/-- non-vacuity: 8 s segments at 90 kHz, N = 1: the segment [56 s, 64 s] carries the event of minute 1
(splice at 70 s) — the case the pre-fix code missed; [0 s, 8 s] carries minute 0's. -/
example : createEmsgAhead (56 * 90000) (64 * 90000) 90000 1 = .ev (mkEv (70 * 90000) 90000 1) := by decide
example : createEmsgAhead 0 (8 * 90000) 90000 1 = .ev (mkEv (10 * 90000) 90000 1) := by decide
example : createEmsgAhead (8 * 90000) (16 * 90000) 90000 1 = .none := by decide

end Scte
