import LivesimVerif.Model.Keys
/-!
# C10 — Advertised key ids, init segments, licences and ciphertext agree

Proved here (model `Model/Keys.lean`, tied to `keys.go` / `handler_laurl.go` by the ops `kid`, `k2k`, `key2kid`, `b64`,
`unb64`, `lic`): the key-id ↔ key derivation is a bijection between the two prefixed families and never panics on what
livesim2 itself announces; the base64url transport used between MPD, player and licence endpoint is lossless for
every 16-byte value; the licence endpoint answers exactly the key derived from the requested id, echoes that id, and
refuses ids it did not issue.

Not proved (runtime, cryptography and container code of mp4ff): that the served ciphertext decrypts to the clear
segment.  That clause — and the agreement of MPD default_KID, init `tenc`, licence and CPIX data — is checked for every
asset × DRM mode × representation × segment (whole and chunked) by the round-trip monitor of the harness.
-/
namespace Keys

def Bytes (l : List Nat) : Prop := ∀ b ∈ l, b < 256

/-! ## alphabet facts -/

/-- The kernel reads a string literal as `String.ofList [..]`, which makes this an instance of `String.toList_ofList`.
Trap: evaluating `String.toList` on the literal itself decodes UTF-8 and is very slow; every proof that evaluates
`alphabet` rewrites with this equation first. -/
theorem alphabet_eq : alphabet = (List.range' 65 26 ++ List.range' 97 26 ++ List.range' 48 10 ++ [43, 47]).map Char.ofNat :=
  String.toList_ofList

theorem enc_facts : ∀ n : Fin 64, decChar (encChar n) = some n.val ∧ encChar n ≠ '=' ∧ fromUrl (toUrl (encChar n)) = encChar n := by
  simp only [decChar, encChar, alphabet_eq]; decide +kernel

theorem dec_enc {n : Nat} (h : n < 64) : decChar (encChar n) = some n := (enc_facts ⟨n, h⟩).1
theorem enc_ne_eq {n : Nat} (h : n < 64) : encChar n ≠ '=' := (enc_facts ⟨n, h⟩).2.1
theorem from_to {n : Nat} (h : n < 64) : fromUrl (toUrl (encChar n)) = encChar n := (enc_facts ⟨n, h⟩).2.2

/-! ## base64: decoding inverts encoding -/

theorem bytes_cons {a : Nat} {l : List Nat} : Bytes (a :: l) ↔ a < 256 ∧ Bytes l := List.forall_mem_cons

/-- three bytes and their four sextets -/
theorem sextets {a b c : Nat} {t : List Nat} (h : Bytes (a :: b :: c :: t)) :
    Bytes t ∧ (a / 4 < 64 ∧ a % 4 * 16 + b / 16 < 64 ∧ b % 16 * 4 + c / 64 < 64 ∧ c % 64 < 64) ∧
    a / 4 * 4 + (a % 4 * 16 + b / 16) / 16 = a ∧ (a % 4 * 16 + b / 16) % 16 * 16 + (b % 16 * 4 + c / 64) / 4 = b ∧
    (b % 16 * 4 + c / 64) % 4 * 64 + c % 64 = c := by
  simp only [bytes_cons] at h
  exact ⟨h.2.2.2, by omega⟩

theorem sextets2 {a b : Nat} (h : Bytes [a, b]) :
    (a / 4 < 64 ∧ a % 4 * 16 + b / 16 < 64 ∧ b % 16 * 4 < 64) ∧
    a / 4 * 4 + (a % 4 * 16 + b / 16) / 16 = a ∧ (a % 4 * 16 + b / 16) % 16 * 16 + b % 16 * 4 / 4 = b := by
  simpa [and_assoc] using (sextets (c := 0) (t := []) (by simpa [bytes_cons] using h)).2

theorem sextets1 {a : Nat} (h : Bytes [a]) : (a / 4 < 64 ∧ a % 4 * 16 < 64) ∧ a / 4 * 4 + a % 4 * 16 / 16 = a := by
  simpa [and_assoc] using sextets2 (b := 0) (by simpa [bytes_cons] using h)

theorem decode_encode : ∀ (bs : List Nat), Bytes bs → decode (encode bs) = some bs
  | [], _ => rfl
  | [a], h => by
    obtain ⟨⟨h1, h2⟩, e1⟩ := sextets1 h
    rw [encode, decode, if_pos ⟨rfl, rfl⟩, if_pos rfl, dec_enc h1, dec_enc h2]
    show some [_] = _  -- only makes the `match`es of `decode` reduce; likewise in the next two cases
    rw [e1]
  | [a, b], h => by
    obtain ⟨⟨h1, h2, h3⟩, e1, e2⟩ := sextets2 h
    rw [encode, decode, if_pos ⟨rfl, rfl⟩, if_neg (enc_ne_eq h3), dec_enc h1, dec_enc h2, dec_enc h3]
    show some [_, _] = _
    rw [e1, e2]
  | a :: b :: c :: t, h => by
    obtain ⟨ht, ⟨h1, h2, h3, h4⟩, e1, e2, e3⟩ := sextets h
    rw [encode, decode, if_neg (fun h => enc_ne_eq h4 h.2), dec_enc h1, dec_enc h2, dec_enc h3, dec_enc h4, decode_encode t ht]
    show some (_ :: _ :: _ :: t) = _
    rw [e1, e2, e3]

/-! ## the URL-safe packing is undone by `unpackBase64` -/

theorem unpack_cons4 (x1 x2 x3 x4 : Char) (ys : List Char) :
    unpack (x1 :: x2 :: x3 :: x4 :: ys) = fromUrl x1 :: fromUrl x2 :: fromUrl x3 :: fromUrl x4 :: unpack ys := by
  simp only [unpack, List.map_cons, List.length_cons, List.cons_append]
  have : (ys.map fromUrl).length + 1 + 1 + 1 + 1 = (ys.map fromUrl).length + 4 := by omega
  rw [this, Nat.add_mod_right]

theorem urlSafe_enc {n : Nat} (h : n < 64) (cs : List Char) : urlSafe (encChar n :: cs) = toUrl (encChar n) :: urlSafe cs := by
  simp [urlSafe, enc_ne_eq h]

theorem unpack_pack : ∀ (bs : List Nat), Bytes bs → unpack (pack bs) = encode bs
  | [], _ => rfl
  | [a], h => by
    obtain ⟨⟨h1, h2⟩, -⟩ := sextets1 h
    rw [pack, encode, urlSafe_enc h1, urlSafe_enc h2]
    show [fromUrl _, fromUrl _, '=', '='] = _
    rw [from_to h1, from_to h2]
  | [a, b], h => by
    obtain ⟨⟨h1, h2, h3⟩, -⟩ := sextets2 h
    rw [pack, encode, urlSafe_enc h1, urlSafe_enc h2, urlSafe_enc h3]
    show [fromUrl _, fromUrl _, fromUrl _, '='] = _
    rw [from_to h1, from_to h2, from_to h3]
  | a :: b :: c :: t, h => by
    obtain ⟨ht, ⟨h1, h2, h3, h4⟩, -⟩ := sextets h
    rw [pack, encode, urlSafe_enc h1, urlSafe_enc h2, urlSafe_enc h3, urlSafe_enc h4, unpack_cons4,
      from_to h1, from_to h2, from_to h3, from_to h4, ← pack, unpack_pack t ht]

/-- **The key-id transport is lossless**: what `PackBase64` writes into MPD / JSON, the licence handler reads back. -/
theorem c10_transport (k : List Nat) (hb : Bytes k) (hl : k.length = 16) : id16FromBase64 (unpack (pack k)) = some k := by
  unfold id16FromBase64
  rw [unpack_pack k hb, decode_encode k hb]
  simp [hl]

/-! ## key id ↔ key -/

/-- a key id as livesim2 issues them -/
def IsKid (k : List Nat) : Prop := k.length = 16 ∧ k.take 3 = kidStart
def IsKey (k : List Nat) : Prop := k.length = 16 ∧ k.take 3 = keyStart

theorem kidToKey_eq_some {kid key : List Nat} :
    kidToKey kid = some key ↔ kid.take 3 = kidStart ∧ key = keyStart ++ kid.drop 3 :=
  Option.ite_some_none_eq_some.trans (and_congr_right' eq_comm)

/-- **`kidToKey` never panics on an issued id, yields a key of the other family, and `keyToKid` inverts it.** -/
theorem c10_key_roundtrip (kid : List Nat) (h : IsKid kid) :
    ∃ key, kidToKey kid = some key ∧ IsKey key ∧ keyToKid key = some kid ∧ key ≠ kid := by
  obtain ⟨hl, hp⟩ := h
  have ht : (keyStart ++ kid.drop 3).take 3 = keyStart := List.take_left' rfl
  have hd : (keyStart ++ kid.drop 3).drop 3 = kid.drop 3 := List.drop_left' rfl
  refine ⟨_, kidToKey_eq_some.mpr ⟨hp, rfl⟩, ⟨?_, ht⟩, ?_, fun he => ?_⟩
  · rw [List.length_append, List.length_drop, hl]; rfl
  · rw [keyToKid, if_pos ht, hd, ← hp, List.take_append_drop]
  · -- the two families differ in their first three bytes
    rw [he, hp] at ht
    cases ht

/-- different ids have different keys -/
theorem c10_key_injective (k1 k2 key : List Nat) (h1 : kidToKey k1 = some key) (h2 : kidToKey k2 = some key) : k1 = k2 := by
  obtain ⟨p1, e1⟩ := kidToKey_eq_some.mp h1
  obtain ⟨p2, e2⟩ := kidToKey_eq_some.mp h2
  rw [← List.take_append_drop 3 k1, ← List.take_append_drop 3 k2, p1, p2, List.append_cancel_left (e1.symm.trans e2)]

/-- ids of other families are refused (panic in `kidToKey`; the licence handler answers 400 first) -/
theorem c10_foreign_refused (k : List Nat) (h : k.take 3 ≠ kidStart) : kidToKey k = none := by
  simp [kidToKey, h]

/-- **`kidFromString` ignores its argument** (the md5 state never sees the string): every asset and every licence URL
gets the same key id, which is why the MPD's default_KID (from the licence URL) and the init segment's (from the asset
name) agree; and the result is always an issued id, so `kidToKey` cannot panic when assets are loaded. -/
theorem c10_kid_constant (md5zero : List Nat) (s1 s2 : String) (hl : md5zero.length = 16) :
    kidFromString md5zero s1 = kidFromString md5zero s2 ∧ IsKid (kidFromString md5zero s1) := by
  refine ⟨rfl, ?_, ?_⟩
  · simp [kidFromString, kidStart, hl]
  · simp [kidFromString, kidStart]

/-! ## licence endpoint -/

/-- **For an issued id the licence carries exactly its key and echoes the id.** -/
theorem c10_licence_correct (kid : List Nat) (hb : Bytes kid) (h : IsKid kid) :
    ∃ key, kidToKey kid = some key ∧ licence (pack kid) = .key (pack key) (pack kid) := by
  obtain ⟨key, hk, _, _, _⟩ := c10_key_roundtrip kid h
  refine ⟨key, hk, ?_⟩
  unfold licence
  simp only [c10_transport kid hb h.1, hk]
  rw [unpack_pack kid hb]
  rfl

/-- **Anything else is refused**: a string that is not the transport form of 16 bytes, or an id of another family. -/
theorem c10_licence_refuses (s : List Char) (h : ∀ kid, id16FromBase64 (unpack s) = some kid → kid.take 3 ≠ kidStart) :
    licence s = .bad := by
  simp only [licence]
  cases hd : id16FromBase64 (unpack s) with
  | none => rfl
  | some kid => simp only [c10_foreign_refused kid (h kid hd)]

/-- non-vacuity -/
example : IsKid [0x28, 0x80, 0xfe, 1, 2, 3, 4, 5, 6, 7, 8, 9, 10, 11, 12, 13] ∧
    licence (pack [0x28, 0x80, 0xfe, 1, 2, 3, 4, 5, 6, 7, 8, 9, 10, 11, 12, 13]) =
      .key "KEY-AQIDBAUGBwgJCgsMDQ".toList "KID-AQIDBAUGBwgJCgsMDQ".toList := by
  have hk : IsKid [0x28, 0x80, 0xfe, 1, 2, 3, 4, 5, 6, 7, 8, 9, 10, 11, 12, 13] := ⟨rfl, rfl⟩
  obtain ⟨key, h1, hl⟩ := c10_licence_correct _ (by simp [Bytes]) hk
  cases h1
  refine ⟨hk, hl.trans ?_⟩
  -- `pack` is evaluated on the spelled-out alphabet (the trap noted at `alphabet_eq`)
  simp only [keyStart, List.drop, List.cons_append, List.nil_append, pack, encode, urlSafe, encChar, alphabet_eq]
  decide +kernel

end Keys
