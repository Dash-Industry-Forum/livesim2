import LivesimVerif.Lemmas.Trans
import LivesimVerif.Lemmas.AudioFrames
import LivesimVerif.Lemmas.Mpd
/-!
# C03 — Audio is re-segmented to follow video boundaries without loss or duplication

`audioTimeFromRef` (= `calcAudioTimeFromRef`) maps a video boundary to the audio grid.  Theorems: it is the *least*
frame boundary at or after the video instant (hence < one frame late), monotone, and consecutive audio segments abut
because they are cut at the images of the same video boundaries (`c01_gap_free`).  Which VoD frames fill a segment
(`createAudioSeg`, `Model/Audio.lean`) is tied by the `seg` op with per-frame identity on generated assets and proved
for every source on a frame grid (`c03_frames`, `c03_frames_recipe`); that the served bytes are those frames (`mp4ff`
sample copying) is observed, not proved.
-/
namespace Core

/-- **First frame boundary at or after**: the result is a multiple of the frame duration, not before the video
instant, and the previous frame boundary is before it. -/
theorem c03_ceil (r refT fd audT : Nat) (hT : 0 < refT) (hf : 0 < fd) :
    fd ∣ audioTimeFromRef r refT fd audT ∧ r * audT ≤ audioTimeFromRef r refT fd audT * refT ∧
    (fd ≤ audioTimeFromRef r refT fd audT → (audioTimeFromRef r refT fd audT - fd) * refT < r * audT) := by
  -- `q = ⌊X / refT⌋` with `X = r·audT` the exact image; `t = ⌊q / fd⌋·fd` the frame boundary at or before `q`
  have hq1 : r * audT / refT * refT ≤ r * audT := Nat.div_mul_le_self _ _
  have hq2 : r * audT < r * audT / refT * refT + refT := Nat.lt_div_mul_add hT
  have ht1 : r * audT / refT / fd * fd ≤ r * audT / refT := Nat.div_mul_le_self _ _
  have ht2 : r * audT / refT < r * audT / refT / fd * fd + fd := Nat.lt_div_mul_add hf
  fun_cases audioTimeFromRef r refT fd audT with
  | case1 t hlt =>
    refine ⟨(Nat.dvd_add_right (Nat.dvd_mul_left _ _)).mpr (Nat.dvd_refl fd), ?_,
      fun _ => by rw [Nat.add_sub_cancel]; exact hlt⟩
    -- t + fd ≥ q + 1 and (q + 1)·refT > X
    have h1 := Nat.mul_le_mul_right refT ht2
    rw [Nat.succ_mul] at h1
    exact Nat.le_of_lt (Nat.lt_of_lt_of_le hq2 h1)
  | case2 t hlt =>
    -- the boundary before `t` is before `t·refT ≤ q·refT ≤ X`
    exact ⟨Nat.dvd_mul_left _ _, Nat.le_of_not_lt hlt, fun hle => Nat.lt_of_lt_of_le
      (Nat.mul_lt_mul_of_pos_right (Nat.sub_lt (Nat.lt_of_lt_of_le hf hle) hf) hT)
      (Nat.le_trans (Nat.mul_le_mul_right _ ht1) hq1)⟩

/-- **Less than one frame late**: `0 ≤ audio·refT − video·audT < frame·refT` (cross-multiplied). -/
theorem c03_late_lt_frame (r refT fd audT : Nat) (hT : 0 < refT) (hf : 0 < fd) :
    r * audT ≤ audioTimeFromRef r refT fd audT * refT ∧
    audioTimeFromRef r refT fd audT * refT < r * audT + fd * refT := by
  obtain ⟨_, h2, h3⟩ := c03_ceil r refT fd audT hT hf
  refine ⟨h2, ?_⟩
  by_cases hle : fd ≤ audioTimeFromRef r refT fd audT
  · calc audioTimeFromRef r refT fd audT * refT
        = (audioTimeFromRef r refT fd audT - fd) * refT + fd * refT := by rw [← Nat.add_mul, Nat.sub_add_cancel hle]
      _ < r * audT + fd * refT := Nat.add_lt_add_right (h3 hle) _
  · exact Nat.lt_of_lt_of_le (Nat.mul_lt_mul_of_pos_right (Nat.lt_of_not_le hle) hT) (Nat.le_add_left _ _)

/-- **Least**: no earlier frame boundary is at or after the video instant. -/
theorem c03_least (r refT fd audT m : Nat) (hT : 0 < refT) (hf : 0 < fd) (hd : fd ∣ m) (hm : r * audT ≤ m * refT) :
    audioTimeFromRef r refT fd audT ≤ m := by
  obtain ⟨hdiv, _, h3⟩ := c03_ceil r refT fd audT hT hf
  -- both are frame boundaries, so `A < m + fd` suffices; otherwise the boundary before `A` is still at or after the instant
  refine Nat.le_of_lt_add_of_dvd (Nat.lt_of_not_le fun hle => ?_) hdiv hd
  exact Nat.lt_irrefl _ (Nat.lt_of_le_of_lt (Nat.le_trans hm (Nat.mul_le_mul_right _ (Nat.le_sub_of_add_le hle)))
    (h3 (Nat.le_trans (Nat.le_add_left _ _) hle)))

/-- Monotone: a later video boundary never maps to an earlier audio boundary. -/
theorem c03_monotone (r₁ r₂ refT fd audT : Nat) (hT : 0 < refT) (hf : 0 < fd) (h : r₁ ≤ r₂) :
    audioTimeFromRef r₁ refT fd audT ≤ audioTimeFromRef r₂ refT fd audT := by
  obtain ⟨hd, hm, _⟩ := c03_ceil r₂ refT fd audT hT hf
  exact c03_least r₁ refT fd audT _ hT hf hd (Nat.le_trans (Nat.mul_le_mul_right _ h) hm)

/-- **Consecutive audio segments abut exactly**, also across every loop wrap: audio segment k ends at the image of
the end of video segment k, which is the start of video segment k+1, whose image is the start of audio segment k+1. -/
theorem c03_abut (a : Asset) (ref : Rep) (h : Contig ref) (hc : Closes a ref) (fd audT k : Nat) :
    audioTimeFromRef (E a ref k) ref.T fd audT = audioTimeFromRef (S a ref (k + 1)) ref.T fd audT := by
  rw [S_succ a ref h hc k]

/-- The number of frames is `(end − start)/frameDuration` exactly: both ends are frame boundaries. -/
theorem c03_count (r₁ r₂ refT fd audT : Nat) (hT : 0 < refT) (hf : 0 < fd) :
    fd ∣ audioTimeFromRef r₂ refT fd audT - audioTimeFromRef r₁ refT fd audT :=
  Nat.dvd_sub (c03_ceil r₂ refT fd audT hT hf).1 (c03_ceil r₁ refT fd audT hT hf).1

/-- **The recipe accounts for the whole segment**: the part taken inside the loop plus the part after the wrap is
exactly the segment's duration `stop − start` (so that `(end − start)/frameDuration` frames are requested, no more, no
less), and the part inside the loop starts at the segment's offset from the loop start. -/
theorem c03_recipe_total (refNr refStart refEnd refTotalDur refT : Nat) (r : Rep) (hT : 0 < refT)
    (hf : 0 < r.constSampleDur) (hse : refStart ≤ refEnd) (hD : 0 < refTotalDur) :
    (audioRecipe refNr refStart refEnd refTotalDur refT r).inEnd - (audioRecipe refNr refStart refEnd refTotalDur refT r).inStart
        + (audioRecipe refNr refStart refEnd refTotalDur refT r).inEndAfterWrap
      = (audioRecipe refNr refStart refEnd refTotalDur refT r).stop - (audioRecipe refNr refStart refEnd refTotalDur refT r).start ∧
    (audioRecipe refNr refStart refEnd refTotalDur refT r).inStart ≤ (audioRecipe refNr refStart refEnd refTotalDur refT r).inEnd ∧
    (audioRecipe refNr refStart refEnd refTotalDur refT r).start = audioTimeFromRef refStart refT r.constSampleDur r.T ∧
    (audioRecipe refNr refStart refEnd refTotalDur refT r).stop = audioTimeFromRef refEnd refT r.constSampleDur r.T := by
  have mono := fun x y => c03_monotone x y refT r.constSampleDur r.T hT hf
  -- the loop start is not after the instant
  have m1 := mono _ _ (Nat.div_mul_le_self refStart refTotalDur)
  have m2 := mono _ _ (Nat.div_mul_le_self refEnd refTotalDur)
  have m3 := mono _ _ hse
  -- the three shapes of a recipe; `aS, aE` are the images of the segment's ends, `wS, wE` the images of the loop starts at
  -- or before them
  fun_cases audioRecipe refNr refStart refEnd refTotalDur refT r with
  | case1 =>
    -- a wrap point lies between the ends (`wS < wE`) and the segment ends less than one frame after its image
    -- (`aE < wE + fd`): everything is taken inside the loop
    exact ⟨by rw [Nat.add_zero, Nat.sub_sub_sub_cancel_right m1], Nat.sub_le_sub_right m3 _, rfl, rfl⟩
  | case2 fd aS aE wS wE _ h1 _ =>
    -- it ends at least one frame after it: the rest is taken after the wrap.  The ends lie in different loops, so the
    -- start lies before the wrap point of the end
    have m4 : aS ≤ wE := by
      apply mono
      rcases Nat.lt_or_ge (refStart / refTotalDur) (refEnd / refTotalDur) with hq | hq
      · exact Nat.le_of_lt ((Nat.div_lt_iff_lt_mul hD).mp hq)
      · exact absurd (mono _ _ (Nat.mul_le_mul_right _ hq)) (Nat.not_le.mpr h1)
    exact ⟨by rw [Nat.sub_sub_sub_cancel_right m1, Nat.add_comm, Nat.sub_add_sub_cancel m2 m4],
      Nat.sub_le_sub_right m4 _, rfl, rfl⟩
  | case3 =>
    -- no wrap point lies between the ends
    exact ⟨by rw [Nat.add_zero, Nat.add_sub_cancel_left], Nat.le_add_right _ _, rfl, rfl⟩

/-! ## The audio SegmentTimeline of the MPD -/

theorem fromBounds_map (A : Nat → Nat) (t0 : Nat) (es : List (Nat × Nat)) (hc : ContigFrom t0 es) :
    fromBounds ((t0 :: es.map (fun e => e.1 + e.2)).map A) = es.map (fun e => (A e.1, A (e.1 + e.2) - A e.1)) := by
  induction es generalizing t0 with
  | nil => simp [fromBounds]
  | cons e rest ih =>
    obtain ⟨h1, h2⟩ := hc
    have := ih (e.1 + e.2) h2
    simp only [List.map_cons] at this ⊢
    subst h1
    simp only [fromBounds, this]

/-- **The audio SegmentTimeline lists exactly the re-segmented audio segments.**  For every contiguous video timeline
(which `generateTimelineEntries` always produces, `listFrom_contigFrom`) the audio timeline derived from it has one
entry per video entry, starting at the image of the video start and lasting to the image of the video end — the tfdt
and duration the segment handler gives that audio segment (`audioRecipe`). -/
theorem c03_mpd_timeline (refSE : SegEntries) (r : Rep) (t0 d0 : Nat) (rest : List (Nat × Nat))
    (hs : 0 ≤ refSE.startNr) (he : refSE.entries = (t0, d0) :: rest) (hc : ContigFrom t0 refSE.entries) :
    (genTimelineFromRef refSE r).entries =
      refSE.entries.map (fun e => (audioTimeFromRef e.1 refSE.T r.sampleDur r.T,
        audioTimeFromRef (e.1 + e.2) refSE.T r.sampleDur r.T - audioTimeFromRef e.1 refSE.T r.sampleDur r.T)) := by
  unfold genTimelineFromRef
  rw [if_neg (Int.not_lt.mpr hs)]
  simp only [he]
  rw [he] at hc
  exact fromBounds_map (fun x => audioTimeFromRef x refSE.T r.sampleDur r.T) t0 ((t0, d0) :: rest) hc

/-- … and the video timeline being the segments `first … first+count−1` (C02), the audio timeline is the list of
`(image of S k, image of E k − image of S k)` over the same `k`, across loop wraps. -/
theorem c03_mpd_timeline_segments (a : Asset) (ref : Rep) (h : Contig ref) (hc : Closes a ref) (r : Rep)
    (first count : Nat) (se : SegEntries) (hs : 0 ≤ se.startNr) (hT : se.T = ref.T)
    (he : se.entries = listFrom ref first (count + 1) (S a ref first)) :
    (genTimelineFromRef se r).entries = (List.range' first (count + 1)).map (fun k =>
      (audioTimeFromRef (S a ref k) ref.T r.sampleDur r.T,
       audioTimeFromRef (S a ref k + segDur ref k) ref.T r.sampleDur r.T - audioTimeFromRef (S a ref k) ref.T r.sampleDur r.T)) := by
  have hl : se.entries = (S a ref first, (ref.seg (first % ref.N)).stop - (ref.seg (first % ref.N)).start) ::
      listFrom ref (first + 1) count (S a ref first + ((ref.seg (first % ref.N)).stop - (ref.seg (first % ref.N)).start)) := by
    rw [he]; rfl
  rw [c03_mpd_timeline se r _ _ _ hs hl (by rw [he]; exact listFrom_contigFrom _ _ _ _), he,
    listFrom_spec a ref h hc, hT, List.map_map]
  rfl

/-- non-vacuity: video boundary 2 s at 90 kHz → AAC frame grid at 48 kHz: 96256 = 94·1024 (2.0053 s) -/
example : audioTimeFromRef 180000 90000 1024 48000 = 96256 := by decide
def exAudio : Rep where
  id := "A"
  kind := .audio
  T := 48000
  segs := [⟨0, 4096, 1⟩, ⟨4096, 8192, 2⟩]
  constSampleDur := 1024
  sampleDur := 1024
  preEnc := false
  stpp := false

/-- frames 3..7 of a two-segment VoD audio of 8 frames, plus one padding frame (the last one repeated) at the loop tail -/
example : createAudioSeg exAudio ⟨7, 3072, 9216, 3072, 9216, 0⟩ = .ok 7 3072 [3, 4, 5, 6, 7, 7] := by decide

/-! ## Frame identity: which source frames a re-segmented audio segment is made of (`createAudioSeg`) -/

/-- **Every frame of the output is the source frame at its position.**  For a source on a frame grid and a recipe in
whole frames — `a … b` inside the loop (starting inside the source), `w` frames after the wrap — `createAudioSeg`
delivers, in this order: the source frames `a … min(b, F) − 1`, the last source frame `F − 1` repeated for the positions
`F … b − 1` beyond the source, and the source frames `0 … w − 1`.  No panic, no error, for every grid and recipe. -/
theorem c03_frames (r : Rep) (rec : Recipe) (g : Grid r r.constSampleDur) (a b w : Nat)
    (ha : rec.inStart = a * r.constSampleDur) (hb : rec.inEnd = b * r.constSampleDur)
    (hw : rec.inEndAfterWrap = w * r.constSampleDur) (hab : a ≤ b)
    (haF : a < totalFrames r r.constSampleDur) (hwF : w < totalFrames r r.constSampleDur)
    (htot : rec.stop - rec.start = (b - a + w) * r.constSampleDur) :
    createAudioSeg r rec = .ok rec.segNr rec.start
      (List.range' a (min b (totalFrames r r.constSampleDur) - a) ++
        List.replicate (b - totalFrames r r.constSampleDur) (totalFrames r r.constSampleDur - 1) ++ List.range' 0 w) := by
  have hfd := g.pos
  have hF : 0 < totalFrames r r.constSampleDur := Nat.lt_of_le_of_lt (Nat.zero_le _) haF
  -- the start lies inside the source: the search for the first source segment stays at 0
  have hs0 : rec.inStart / r.dur = 0 := by
    apply Nat.div_eq_of_lt; rw [ha, g.dur_eq]; exact Nat.mul_lt_mul_of_pos_right haF hfd
  -- `createAudioSeg.back`: the `let rec back` of `createAudioSeg`, under the name and argument order Lean gives it
  have hback : createAudioSeg.back r rec 0 (r.N + 1) = some 0 := by
    unfold createAudioSeg.back
    rw [g.start0, if_neg (Nat.not_lt_zero _)]
  -- the loop part, and the part after the wrap appended to it
  obtain ⟨c, hrun, hcol, hfr⟩ := collect_init g rec a b ha hb hab haF (r.N + 1) 0 g.ne (by omega) (Nat.zero_le _)
  obtain ⟨fs, hm, hfl⟩ := Option.map_eq_some_iff.mp (afterWrap_frames g hwF hfr)
  have hleft : ¬ rec.stop - rec.start - c.collected ≠ w * r.constSampleDur := by
    rw [hcol, htot, ← Nat.sub_mul, Nat.add_sub_cancel_left]; exact fun h => h rfl
  unfold createAudioSeg
  simp only [hs0, hback, hrun, hw]
  -- the guards: frame duration and source duration are not 0, the start segment exists, nothing is left over
  rw [if_neg fun h => h.elim (Nat.ne_of_gt hfd) (g.dur_eq ▸ Nat.ne_of_gt (Nat.mul_pos hF hfd)), if_neg (Nat.not_le.mpr g.ne),
    if_neg hleft, hm]
  exact congrArg (AudioSeg.ok rec.segNr rec.start) hfl

/-- the bounds of every recipe `calcAudioSegRecipe` makes are whole frames -/
theorem recipe_whole_frames (refNr refStart refEnd refTotalDur refT : Nat) (r : Rep) (hT : 0 < refT)
    (hf : 0 < r.constSampleDur) :
    r.constSampleDur ∣ (audioRecipe refNr refStart refEnd refTotalDur refT r).inStart ∧
    r.constSampleDur ∣ (audioRecipe refNr refStart refEnd refTotalDur refT r).inEnd ∧
    r.constSampleDur ∣ (audioRecipe refNr refStart refEnd refTotalDur refT r).inEndAfterWrap := by
  have d := fun x => (c03_ceil x refT r.constSampleDur r.T hT hf).1
  have z : r.constSampleDur ∣ 0 := Nat.dvd_zero _
  fun_cases audioRecipe refNr refStart refEnd refTotalDur refT r with
  | case1 => exact ⟨Nat.dvd_sub (d _) (d _), Nat.dvd_sub (d _) (d _), z⟩
  | case2 => exact ⟨Nat.dvd_sub (d _) (d _), Nat.dvd_sub (d _) (d _), Nat.dvd_sub (d _) (d _)⟩
  | case3 => exact ⟨Nat.dvd_sub (d _) (d _), Nat.dvd_add (Nat.dvd_sub (d _) (d _)) (Nat.dvd_sub (d _) (d _)), z⟩

/-- **Frame identity for the recipes the server makes**: for the recipe of a reference segment `[refStart, refEnd)`,
whenever the segment starts inside the source and the part after the wrap is shorter than the source, the output frames
are the source frames at the positions `inStart/fd …`, padded with the last one, followed by the source frames from 0. -/
theorem c03_frames_recipe (refNr refStart refEnd refTotalDur refT : Nat) (r : Rep) (g : Grid r r.constSampleDur)
    (hT : 0 < refT) (hse : refStart ≤ refEnd) (hD : 0 < refTotalDur)
    (hin : (audioRecipe refNr refStart refEnd refTotalDur refT r).inStart < r.dur)
    (hwr : (audioRecipe refNr refStart refEnd refTotalDur refT r).inEndAfterWrap < r.dur) :
    let rec_ := audioRecipe refNr refStart refEnd refTotalDur refT r
    let fd := r.constSampleDur
    let F := totalFrames r fd
    createAudioSeg r rec_ = .ok refNr (audioTimeFromRef refStart refT fd r.T)
      (List.range' (rec_.inStart / fd) (min (rec_.inEnd / fd) F - rec_.inStart / fd) ++
        List.replicate (rec_.inEnd / fd - F) (F - 1) ++ List.range' 0 (rec_.inEndAfterWrap / fd)) := by
  intro rec_ fd F
  obtain ⟨da, db, dw⟩ := recipe_whole_frames refNr refStart refEnd refTotalDur refT r hT g.pos
  obtain ⟨htot, hle, hst, _⟩ := c03_recipe_total refNr refStart refEnd refTotalDur refT r hT g.pos hse hD
  have hdur : r.dur = fd * F := g.dur_eq.trans (Nat.mul_comm _ _)
  -- the recipe in whole frames: `a`, `b`, `w` are the quotients themselves
  have key := c03_frames r rec_ g (rec_.inStart / fd) (rec_.inEnd / fd) (rec_.inEndAfterWrap / fd)
    (Nat.div_mul_cancel da).symm (Nat.div_mul_cancel db).symm (Nat.div_mul_cancel dw).symm (Nat.div_le_div_right hle)
    (Nat.div_lt_of_lt_mul (hdur ▸ hin)) (Nat.div_lt_of_lt_mul (hdur ▸ hwr))
    (by rw [Nat.add_mul, Nat.sub_mul, Nat.div_mul_cancel da, Nat.div_mul_cancel db, Nat.div_mul_cancel dw]
        exact htot.symm)
  have hnr : (audioRecipe refNr refStart refEnd refTotalDur refT r).segNr = refNr := by
    fun_cases audioRecipe refNr refStart refEnd refTotalDur refT r with
    | case1 | case2 | case3 => rfl
  rw [hnr] at key
  rw [← hst]
  exact key

/-- non-vacuity: a source of three segments of 4, 4 and 3 frames (11 frames, frame duration 1024); the recipe takes
frames 9 … 13 of the loop — two source frames, the last one repeated for two positions beyond the source — and 2 frames
after the wrap -/
def exGridRep : Rep where
  id := "A1"
  kind := .audio
  T := 48000
  segs := [⟨0, 4096, 1⟩, ⟨4096, 8192, 2⟩, ⟨8192, 11264, 3⟩]
  constSampleDur := 1024
  sampleDur := 1024
  preEnc := false
  stpp := false

example : createAudioSeg exGridRep ⟨7, 100 * 1024, 106 * 1024, 9 * 1024, 13 * 1024, 2 * 1024⟩ =
    .ok 7 (100 * 1024) [9, 10, 10, 10, 0, 1] := by decide

/-- **tie by translation**: the model's `audioTimeFromRef` is the Go function `calcAudioTimeFromRef`, translated
statement by statement from the current source (`Gen/Trans.lean`, regenerated on every run), on natural numbers -/
theorem c03_trans_audioTimeFromRef (refTime refT frameDur audT : Nat) :
    Gen.Trans.calcAudioTimeFromRef refTime refT frameDur audT = ((audioTimeFromRef refTime refT frameDur audT : Nat) : Int) :=
  TransTie.audioTimeFromRef_eq refTime refT frameDur audT

end Core
