import LivesimVerif.Model.Ingest
import LivesimVerif.Lemmas.ChunkSrc
/-!
# C16 — The CMAF-ingest sender emits a complete, ordered and faithful stream

Proved here, for every sequence of step / delete calls (model `Model/Ingest.lean`, tied to the session loop by the op
`sess`, which runs real sessions against a scripted receiver): the segment numbers sent are consecutive, starting at the
number right after the live edge, without gap, duplicate or reordering; a session with a duration sends at most — and, if
stepped often enough, exactly — the corresponding number of segments, marks exactly the last of them, and answers later
steps with 409; nothing is sent after a delete.

Observed by the monitor, not proved: that every representation gets its init segment first and one segment per step,
that each body is byte-identical to what livesim2 serves for that segment, extension / content type / ingest header /
credentials, Streams() URLs, receivers that are slow or answer with errors.
-/
namespace Ingest

/-- invariant of the loop: a running session with a duration has not passed its last number -/
def Inv (s : Sess) : Prop := ∀ l, s.last = some l → s.alive = true → s.next ≤ l

theorem step_dead (s : Sess) (h : s.alive = false) : step s .step = (s, .conflict) := by
  simp [step, h]

theorem step_alive (s : Sess) (h : s.alive = true) :
    step s .step = ({ s with next := s.next + 1, alive := s.last.all fun l => decide (s.next + 1 ≤ l) },
      .sent s.next (s.last.any fun l => s.next == l)) := by
  unfold step
  rw [h]
  cases s.last <;> rfl

theorem step_inv (s : Sess) (e : Ev) (h : Inv s) : Inv (step s e).1 := by
  fun_cases step s e with
  | case1 => exact fun l _ ha => nomatch ha   -- deleted: not running
  | case2 => exact h
  | case3 _ hl => exact fun l hl' => nomatch hl.symm.trans hl'   -- no duration
  | case4 _ l hl =>   -- it runs on exactly while the next number is at most `l`
    intro l' hl' hal
    obtain rfl := Option.some.inj (hl.symm.trans hl')
    exact of_decide_eq_true hal

/-- **What a session sends**, for every sequence of calls: consecutive numbers from `next` on; none once it has ended;
and with a last number `l ≥ next` none beyond `l`. -/
theorem sent_spec (s : Sess) (evs : List Ev) :
    ∃ m, sentNrs (run s evs) = List.range' s.next m ∧ (s.alive = false → m = 0) ∧
      ∀ l, s.last = some l → s.next ≤ l → s.next + m ≤ l + 1 := by
  fun_induction run s evs with
  | case1 s => exact ⟨0, rfl, fun _ => rfl, fun l _ h => Nat.le_succ_of_le h⟩
  | case2 s e es ih =>
    obtain ⟨m, hm, hd, hb⟩ := ih
    cases e with
    | del =>
      rw [hd rfl] at hm
      exact ⟨0, hm, fun _ => rfl, fun l _ h => Nat.le_succ_of_le h⟩
    | step =>
      cases ha : s.alive with
      | false =>
        rw [step_dead s ha] at hm hd hb ⊢
        exact ⟨m, hm, fun _ => hd ha, hb⟩
      | true =>
        rw [step_alive s ha] at hm hd hb ⊢
        dsimp only at hd hb
        refine ⟨m + 1, by rw [sentNrs, hm, List.range'_succ], nofun, fun l hl hle => ?_⟩
        -- after the last number the session has ended and sends nothing more
        rcases Nat.lt_or_ge s.next l with hlt | hge
        · have := hb l hl hlt; omega
        · have : m = 0 := hd (by simp only [hl, Option.all_some, decide_eq_false_iff_not]; omega)
          omega

/-- **No gap, duplicate or reordering**: the numbers sent are `next, next+1, …` -/
theorem c16_consecutive (s : Sess) (evs : List Ev) :
    ∃ m, sentNrs (run s evs) = List.range' s.next m :=
  (sent_spec s evs).imp fun _ h => h.1

theorem start_next (first : Nat) (n : Option Nat) : (start first n).next = first := by
  unfold start; split <;> rfl

/-- the first number sent is the one right after the live edge -/
theorem c16_starts_after_live_edge (first : Nat) (n : Option Nat) (evs : List Ev) :
    ∃ m, sentNrs (run (start first n) evs) = List.range' first m := by
  have h := c16_consecutive (start first n) evs
  rwa [start_next] at h

/-- a stopped session sends nothing more -/
theorem dead_sends_nothing (s : Sess) (evs : List Ev) (h : s.alive = false) : sentNrs (run s evs) = [] := by
  obtain ⟨m, hm, hd, _⟩ := sent_spec s evs
  rw [hm, hd h]; rfl

/-- **Deleting the session stops it.** -/
theorem c16_delete_stops (s : Sess) (before after : List Ev) :
    sentNrs (run s (before ++ Ev.del :: after)) = sentNrs (run s before) := by
  induction before generalizing s with
  | nil => exact dead_sends_nothing { s with alive := false } after rfl
  | cons e es ih =>
    simp only [List.cons_append, run]
    cases (step s e).2 <;> simp only [sentNrs, ih]

/-- **A session with a duration never sends a number beyond its last one.** -/
theorem c16_bounded (s : Sess) (l : Nat) (hl : s.last = some l) (hinv : Inv s) (evs : List Ev) :
    ∀ n ∈ sentNrs (run s evs), n ≤ l := by
  obtain ⟨m, hm, hd, hb⟩ := sent_spec s evs
  rw [hm]
  intro n hn
  rw [List.mem_range'_1] at hn
  cases ha : s.alive with
  | false => rw [hd ha] at hn; omega
  | true => have := hb l hl (hinv l hl ha); omega

/-- hence at most `k+1` segments for a duration of `k+1` segments, none for a duration shorter than one -/
theorem c16_count (first k : Nat) (evs : List Ev) :
    (sentNrs (run (start first (some (k + 1))) evs)).length ≤ k + 1 ∧ sentNrs (run (start first (some 0)) evs) = [] := by
  refine ⟨?_, dead_sends_nothing _ evs rfl⟩
  obtain ⟨m, hm, _, hb⟩ := sent_spec (start first (some (k + 1))) evs
  have := hb (first + k) rfl (Nat.le_add_right _ _)
  rw [hm, List.length_range']
  exact Nat.le_of_add_le_add_left (Nat.add_assoc _ _ _ ▸ this)

/-- a running session `d` numbers before its last one `l`, stepped `d + 2` times -/
theorem run_to_last (l : Nat) : ∀ d n, n + d = l →
    run ⟨n, some l, true⟩ (List.replicate (d + 1) Ev.step ++ [Ev.step]) =
      (List.range' n d).map (fun n => Out.sent n false) ++ [Out.sent l true, Out.conflict]
  | 0, n, h => by
    subst h
    simp [run, step_alive, step_dead]
  | d + 1, n, h => by
    have hne : (n == l) = false := by simp; omega
    have hal : decide (n + 1 ≤ l) = true := by simp; omega
    rw [List.replicate_succ, List.cons_append, run, step_alive _ rfl]
    simp only [Option.all_some, Option.any_some, hne, hal]
    rw [run_to_last l d (n + 1) (by omega), List.range'_succ, List.map_cons]
    rfl

/-- **Stepping a fresh session `k+1` times delivers exactly the `k+1` segments, the last one marked, and the next
step is refused.** -/
theorem c16_exact (first k : Nat) :
    ∀ j, j ≤ k →
      run ⟨first + j, some (first + k), true⟩ (List.replicate (k + 1 - j) Ev.step ++ [Ev.step]) =
        (List.range' (first + j) (k - j)).map (fun n => Out.sent n false) ++ [Out.sent (first + k) true, Out.conflict] := by
  intro j hj
  rw [Nat.sub_add_comm hj]
  exact run_to_last (first + k) (k - j) (first + j) (by omega)

/-- non-vacuity: a 3-segment session stepped five times, with a delete in another run -/
example : run (start 7 (some 3)) [.step, .step, .step, .step, .step] =
    [.sent 7 false, .sent 8 false, .sent 9 true, .conflict, .conflict] := by decide
example : run (start 7 none) [.step, .del, .step] = [.sent 7 false, .deleted, .conflict] := by decide

end Ingest

/-! ## The chunked-transfer body (low-latency sessions): `cmafSource.Write / Read` (model `Model/ChunkSrc.lean`, op `csrc`) -/
namespace ChunkSrc

/-- after any sequence of reads the body is a prefix of the stream, and all of it once `io.EOF` has been seen -/
theorem body_stream (s : Src) (ks : List Nat) :
    ∃ rest, s.stream = s.body ks ++ rest ∧ (none ∈ s.trace ks → rest = []) := by
  fun_induction Src.body s ks with
  | case1 s => exact ⟨s.stream, rfl, nofun⟩
  | case2 s k ks s' hr => exact ⟨[], by rw [(read_eof s s' k hr).1]; rfl, fun _ => rfl⟩
  | case3 s k ks s' out hr ih =>
    obtain ⟨rest, hrest, hnil⟩ := ih
    refine ⟨rest, by rw [(read_stream s s' k out hr).1, hrest, List.append_assoc], fun h => hnil ?_⟩
    rw [Src.trace, hr] at h
    exact (List.mem_cons.mp h).resolve_left nofun

/-- **Faithful prefix**: whatever sizes the HTTP client reads with, and however the chunks are cut into rounds of the
fixed buffer, the body assembled so far is a prefix of the bytes written — nothing repeated, dropped or reordered. -/
theorem c16_chunked_body_prefix (s : Src) (ks : List Nat) : ∃ rest, s.stream = s.body ks ++ rest :=
  (body_stream s ks).imp fun _ h => h.1

/-- **Complete at EOF**: when the client has seen `io.EOF`, the body is exactly what was written. -/
theorem c16_chunked_body_complete (s : Src) (ks : List Nat) (h : none ∈ s.trace ks) : s.body ks = s.stream := by
  obtain ⟨rest, hs, hnil⟩ := body_stream s ks
  rw [hs, hnil h, List.append_nil]

/-- what is left to do, counted in reads: the bytes, plus one (possibly empty) round per `Write` still to start -/
def Src.todo (s : Src) : Nat := s.stream.length + s.queue.length

/-- **Progress**: a `Read` into a non-empty client buffer (buffer size > 0) either returns EOF or strictly reduces what
is left — it never returns `(0, nil)` without having consumed a (then empty) `Write`. -/
theorem read_progress (s s' : Src) (k : Nat) (out : List Nat) (hk : 0 < k) (hc : 0 < s.cap)
    (h : s.read k = (s', some out)) : s'.todo < s.todo := by
  obtain ⟨hs, _, _, hq, hq0⟩ := read_stream s s' k out h
  have hl : s.stream.length = out.length + s'.stream.length := by rw [hs, List.length_append]
  unfold Src.todo
  cases out with
  | nil => have := hq0 hk hc rfl; simp only [List.length_nil] at hl; omega
  | cons _ _ => simp only [List.length_cons] at hl; omega

/-- **The whole body arrives**: with client buffers of positive size, `todo + 1` reads are enough to reach EOF, and the
body then equals the bytes written, for every buffer size `cap > 0`, every cut into `Write` calls and every read size. -/
theorem c16_chunked_body_whole (s : Src) (ks : List Nat) (hc : 0 < s.cap) (hk : ∀ k ∈ ks, 0 < k)
    (hlen : s.todo < ks.length) : s.body ks = s.stream := by
  apply c16_chunked_body_complete
  fun_induction Src.trace s ks with
  | case1 => exact absurd hlen (Nat.not_lt_zero _)
  | case2 => exact .head _
  | case3 s k ks s' out hr ih =>
    have hp := read_progress s s' k out (hk k (.head _)) hc hr
    have hcap := (read_stream s s' k out hr).2.2.1
    exact .tail _ (ih (hcap ▸ hc) (fun k' hk' => hk k' (.tail _ hk')) (by rw [List.length_cons] at hlen; omega))

/-- for a session: the body of the PUT request is the concatenation of the chunks written -/
theorem c16_chunked_upload (cap : Nat) (writes : List (List Nat)) (ks : List Nat) (hc : 0 < cap)
    (hk : ∀ k ∈ ks, 0 < k) (hlen : writes.flatten.length + writes.length < ks.length) :
    (start cap writes).body ks = writes.flatten := by
  have := c16_chunked_body_whole (start cap writes) ks hc hk (by simpa [start, Src.todo, Src.stream] using hlen)
  simpa [start, Src.stream] using this

/-- non-vacuity: three chunks (one larger than the buffer, one empty), read 3 bytes at a time through a 4-byte buffer -/
example : (start 4 [[1, 2, 3, 4, 5, 6], [], [7]]).body [3, 3, 3, 3, 3, 3, 3, 3, 3, 3] = [1, 2, 3, 4, 5, 6, 7] := by decide
example : (start 4 [[1, 2, 3, 4, 5, 6], [], [7]]).trace [3, 3, 3, 3, 3, 3, 3] =
    [some [1, 2, 3], some [4], some [5, 6], some [], some [7], none, none] := by decide

end ChunkSrc
