import LivesimVerif.Model.Limiter
import LivesimVerif.Gen.Access
/-!
# C20 — The request limiter enforces its quota exactly, also under concurrency

Sequential core: `Lim.inc` refines the log specification `Lim.Spec.inc` for every request history
(`c20_refines`); the quota / header / reset / white-list clauses are theorems about the specification
(`Spec.inc` itself, which the limiter equals by the refinement), each for every history, address set and interval
crossing.  The concurrency clause is `LimiterLocks.c20_lock_discipline` over the regenerated lock table
(`Gen/Access.lean`).
-/
namespace Lim
variable {Ip : Type} [DecidableEq Ip]

/-- refinement relation: same reset instant, every counter equals the number of logged requests -/
def Rel (s : St Ip) (a : Spec Ip) : Prop := s.reset = a.reset ∧ ∀ ip, get s.counters ip = a.hist.count ip

/-- `bump` raises the counter of its address and no other: the counters follow `List.count` of the log -/
theorem get_bump (cs : List (Ip × Nat)) (ip ip' : Ip) :
    get (bump cs ip) ip' = get cs ip' + if ip = ip' then 1 else 0 := by
  fun_induction bump cs ip with
  | case1 => simp [get]
  | case2 v t => by_cases hk' : ip = ip' <;> simp [get, hk']
  | case3 k v t hk ih =>
    by_cases hk' : k = ip'
    · subst hk'; simp [get, Ne.symm hk]
    · simp [get, hk', ih]

theorem rel_roll {cfg : Cfg Ip} {s a} (now : Int) (h : Rel s a) : Rel (roll cfg s now) (a.roll cfg now) := by
  unfold roll Spec.roll
  rw [h.1]
  split
  · exact ⟨rfl, fun ip => by simp [get]⟩
  · exact h

/-- one step: same output, relation preserved -/
theorem inc_refines {cfg : Cfg Ip} {s a} (now : Int) (ip : Ip) (h : Rel s a) :
    (inc cfg s now ip).2 = (a.inc cfg now ip).2 ∧ Rel (inc cfg s now ip).1 (a.inc cfg now ip).1 := by
  have hr := rel_roll (cfg := cfg) now h
  simp only [inc, Spec.inc, Rel, get_bump, hr.1, hr.2, List.count_cons, beq_iff_eq, if_true, implies_true, and_self]

/-- **Refinement**: for every request history (any addresses, any instants) the limiter answers
exactly as the log specification does. -/
theorem c20_refines (cfg : Cfg Ip) (s : St Ip) (a : Spec Ip) (h : Rel s a) (evs : List (Int × Ip)) :
    runAll cfg s evs = Spec.runAll cfg a evs := by
  fun_induction runAll cfg s evs generalizing a with
  | case1 => rfl
  | case2 s now ip t ih =>
    have := inc_refines (cfg := cfg) now ip h
    rw [Spec.runAll, this.1, ih _ this.2]

theorem rel_init (reset : Int) : Rel ({ reset := reset, counters := [] } : St Ip) { reset := reset, hist := [] } :=
  ⟨rfl, fun _ => by simp [get]⟩

/-- Quota: the request that is the j-th of its address since the last reset is numbered j, and an
address outside the white list is passed on iff j ≤ max. -/
theorem c20_quota (cfg : Cfg Ip) (a : Spec Ip) (now : Int) (ip : Ip) (hw : whitelisted cfg ip = false) :
    (a.inc cfg now ip).2.nr = (a.roll cfg now).hist.count ip + 1 ∧
    ((a.inc cfg now ip).2.ok = true ↔ (((a.roll cfg now).hist.count ip + 1 : Nat) : Int) ≤ cfg.max) ∧
    (a.inc cfg now ip).2.maxNr = cfg.max := by
  simp [Spec.inc, hw]

/-- White-listed addresses are never limited and report max = −1. -/
theorem c20_whitelist (cfg : Cfg Ip) (a : Spec Ip) (now : Int) (ip : Ip) (hw : whitelisted cfg ip = true) :
    (a.inc cfg now ip).2.ok = true ∧ (a.inc cfg now ip).2.maxNr = -1 := by
  simp [Spec.inc, hw]

/-- Counters restart only when the interval has elapsed — and then for all addresses together. -/
theorem c20_reset_only_elapsed (cfg : Cfg Ip) (a : Spec Ip) (now : Int) (ip : Ip) :
    (now - a.reset > cfg.interval → (a.inc cfg now ip).1.hist = [ip] ∧ (a.inc cfg now ip).1.reset = now) ∧
    (¬ now - a.reset > cfg.interval → (a.inc cfg now ip).1.hist = ip :: a.hist ∧ (a.inc cfg now ip).1.reset = a.reset) := by
  constructor <;> intro h <;> simp [Spec.inc, Spec.roll, h]

/-- the reported numbers of one address over a history without reset, oldest first -/
def nrsOf (cfg : Cfg Ip) (a : Spec Ip) (ip : Ip) : List (Int × Ip) → List Nat
  | [] => []
  | (now, ip') :: t =>
    if ip' = ip then (a.inc cfg now ip').2.nr :: nrsOf cfg (a.inc cfg now ip').1 ip t
    else nrsOf cfg (a.inc cfg now ip').1 ip t

/-- Header: as long as no reset happens, the counter values reported to one address are
c+1, c+2, …, c+k — each value exactly once, in order (c = 0 right after a reset). -/
theorem c20_header_once (cfg : Cfg Ip) (a : Spec Ip) (ip : Ip) (evs : List (Int × Ip))
    (hn : ∀ e ∈ evs, ¬ e.1 - a.reset > cfg.interval) :
    nrsOf cfg a ip evs = List.range' (a.hist.count ip + 1) (evs.filter (·.2 = ip)).length := by
  induction evs generalizing a with
  | nil => simp [nrsOf]
  | cons e t ih =>
    obtain ⟨now, ip'⟩ := e
    have h0 : ¬ now - a.reset > cfg.interval := hn (now, ip') (by simp)
    have hs : (a.inc cfg now ip').1 = { a with hist := ip' :: a.hist } ∧ (a.inc cfg now ip').2.nr = a.hist.count ip' + 1 := by
      simp [Spec.inc, Spec.roll, h0]
    have := ih { a with hist := ip' :: a.hist } fun e he => hn e (by simp [he])
    by_cases hi : ip' = ip
    · subst hi; simp [nrsOf, hs, this, List.range'_succ]
    · simp [nrsOf, hi, hs, this, List.count_cons_of_ne hi]

/-- `Count` reads what `Inc` reported last for that address (0 if none since the reset). -/
theorem c20_count (s : St Ip) (a : Spec Ip) (h : Rel s a) (ip : Ip) : count s ip = a.hist.count ip := h.2 ip

/-- non-vacuity: 3 requests of one address with max = 2, then a fourth after the interval (addresses as numbers) -/
example : (runAll (Ip := Nat) { max := 2, interval := 100, wl := fun _ => false } { reset := 0, counters := [] }
    [(1, 7), (2, 7), (3, 8), (4, 7), (105, 7)]).map (fun o => (o.nr, o.ok))
    = [(1, true), (2, true), (1, true), (3, false), (1, true)] := by decide

example : (⟨3232236800, 24⟩ : Block).contains 3232236877 = true := by decide

end Lim


/-! ## lock discipline of the limiter (regenerated access table) -/
namespace LimiterLocks

def limAcc := Gen.accesses.filter fun a => a.1 == "app" && a.2.1 == "IPRequestLimiter"

/-- **Every access to the counters and the reset time holds the limiter's mutex** (the fields that `Inc` changes);
the other fields are set once when the limiter is created.  The third conjunct guards the first against an empty
filter: the table does hold the read of `ResetTime` in `EndTime`, the one access outside `Inc` and `Count`. -/
theorem c20_lock_discipline :
    (limAcc.filter fun a => a.2.2.1 == "Counters" || a.2.2.1 == "ResetTime").all (fun a => a.2.2.2.2.2.1 == "W") = true ∧
    (limAcc.filter fun a => a.2.2.2.2.1).all (fun a => a.2.2.1 == "Counters" || a.2.2.1 == "ResetTime") = true ∧
    (limAcc.any fun a => a.2.2.1 == "ResetTime" && a.2.2.2.1 == "IPRequestLimiter.EndTime") = true := by decide +kernel

end LimiterLocks
