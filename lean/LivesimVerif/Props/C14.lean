import LivesimVerif.Lemmas.Fault
import LivesimVerif.Lemmas.Mpd
import LivesimVerif.Lemmas.Traffic
/-!
# C14 — Fault-injection parameters hit exactly the scheduled requests

Traffic patterns: `parseLoss` (= `CreateLossItvls`, with the `fix:` commit rejecting empty patterns) and `stateAt`
(= `StateAt`).  Status-code patterns: `calcStatusCode` is modelled (`Model/Fault.lean`) and tied by the `stat` op swept
over whole cycles; `c14_cycle_first`, `c14_rank` and `c14_code_iff` prove its rank characterisation (the configured code
goes to the request whose index, counted from the first segment that starts in its cycle, is the configured number);
an independent monitor enumerates the hit set as well.
-/
namespace Core

/-- **Accepted patterns are well-formed**: at least one interval, every duration positive — so the cycle
duration is positive and `StateAt` never divides by zero. -/
theorem c14_loss_parse (s : String) (l : List LossItvl) (h : parseLoss s = some l) : l ≠ [] ∧ GoodItvls l :=
  parseLoss_good h

/-- `StateAt` is total on accepted patterns. -/
theorem c14_stateAt_total (s : String) (l : List LossItvl) (h : parseLoss s = some l) (nowS : Nat) :
    ∃ st, stateAt l nowS = some st :=
  have ⟨hne, hg⟩ := parseLoss_good h
  ⟨_, stateAt_of_pos (cycleDur_pos hne hg) nowS⟩

/-- **Cyclic from the epoch**: the state only depends on the second modulo the cycle duration. -/
theorem c14_state_periodic (l : List LossItvl) (nowS k : Nat) : stateAt l (nowS + k * cycleDur l) = stateAt l nowS := by
  unfold stateAt
  rw [Nat.add_mul_mod_self_right]

/-- **Interval semantics**: inside the cycle, the state at offset `Σ(durations before) + y` with `y` below the
interval's duration is that interval's state. -/
theorem c14_state_in_interval (pre post : List LossItvl) (st d y : Nat) (hy : y < d) :
    stateIn (pre ++ (st, d) :: post) ((pre.map (·.2)).foldl (· + ·) 0 + y) = st :=
  (stateIn_append pre _ y).trans (if_pos hy)

/-- A pattern whose representation filter does not match is skipped: with no matching pattern the request is
answered normally. -/
theorem c14_other_reps_normal (a : Asset) (r : Rep) (cfg : Cfg) (segId nowMS : Nat) (pats : List Pat) (m : Meta) (mrep : Rep)
    (hf : findSegMeta a r cfg segId nowMS = (.found m, some mrep)) (hN : mrep.N ≠ 0)
    (hno : ∀ p ∈ pats, repInReps r.id p = false) :
    calcStatusCode a r cfg segId nowMS pats = .normal := by
  unfold calcStatusCode
  simp only [hf, hN, ↓reduceIte]
  induction pats with
  | nil => rfl
  | cons p rest ih =>
    rw [codeGo, hno p List.mem_cons_self, Bool.not_false, if_pos rfl]
    exact ih fun q hq => hno q (List.mem_cons_of_mem p hq)

/-! ## which segment of a cycle is hit -/

theorem findSegStartTime_eq (a : Asset) (r : Rep) (k : Nat) : findSegStartTime a r k = S a r k := by
  unfold findSegStartTime S
  rw [← Nat.mod_eq_sub_div_mul]

/-- the segment after the newest one that has ended at `nowMS` (segment 0 when none has) contains that instant -/
theorem findLastSegNr_succ (a : Asset) (cfg : Cfg) (r : Rep) (h : Contig r) (hc : Closes a r)
    (hadm : a.loopMS * r.T = 1000 * r.dur) (hl : 0 < a.loopMS) (nowMS : Nat) (hnow : cfg.startS * 1000 ≤ nowMS) :
    S a r (findLastSegNr a cfg nowMS r + 1).toNat ≤ (nowMS - cfg.startS * 1000) * r.T / 1000 ∧
    (nowMS - cfg.startS * 1000) * r.T / 1000 < E a r (findLastSegNr a cfg nowMS r + 1).toNat := by
  rcases genTimeline_last a r h hc hadm hl cfg.startS nowMS 60 0 hnow with ⟨hs, he, ht⟩ | ⟨k, hk, -, -, h1, h2⟩
  · simp only [findLastSegNr, hs, he]
    exact ⟨S_zero a r hc ▸ Nat.zero_le _, ht⟩
  · simp only [findLastSegNr, hk, Int.toNat_natCast_add_one, S_succ a r h hc]
    exact ⟨h1, h2⟩

theorem ticks_of_seconds (x s T : Nat) : ((x + s) * 1000 - s * 1000) * T / 1000 = x * T := by
  rw [Nat.add_mul, Nat.add_sub_cancel, Nat.mul_right_comm, Nat.mul_div_cancel _ (by decide)]

/-- for strictly increasing `g`: from the index `f` with `g f ≤ W < g (f + 1)` to the least index `j` with `W ≤ g j` -/
theorem least_start {g : Nat → Nat} (hg : ∀ i j, i < j → g i < g j) {f W : Nat} (hf : g f ≤ W ∧ W < g (f + 1))
    (j : Nat) : (if g f < W then f + 1 else f) ≤ j ↔ W ≤ g j := by
  have hlt {i k : Nat} : g i < g k ↔ i < k := lt_iff_of_strictMono hg
  have hle {i k : Nat} : g i ≤ g k ↔ i ≤ k := by rw [← Nat.not_lt, ← Nat.not_lt, hlt]
  split
  · next hW =>
    exact ⟨fun hj => Nat.le_trans (Nat.le_of_lt hf.2) (hle.mpr hj), fun hj => hlt.mp (Nat.lt_of_lt_of_le hW hj)⟩
  · next hW =>
    rw [← Nat.le_antisymm hf.1 (Nat.not_lt.mp hW)]
    exact hle.symm

/-- `cycleFirst` is the least segment index that starts at or after the start of the cycle containing `t`: the segment
it starts from contains the start of the cycle -/
theorem cycleFirst_le_iff (a : Asset) (cfg : Cfg) (r : Rep) (h : Contig r) (hc : Closes a r)
    (hadm : a.loopMS * r.T = 1000 * r.dur) (hl : 0 < a.loopMS) (cycle t j : Nat) :
    cycleFirst a cfg r cycle r.T t ≤ j ↔ t / (cycle * r.T) * cycle * r.T ≤ S a r j := by
  unfold cycleFirst
  simp only [findSegStartTime_eq]
  refine least_start (S_strictMono a r h hc) ?_ j
  rw [S_succ a r h hc]
  split
  · have := findLastSegNr_succ a cfg r h hc hadm hl ((t / (cycle * r.T) * cycle + cfg.startS) * 1000)
      (Nat.mul_le_mul_right _ (Nat.le_add_left _ _))
    rwa [ticks_of_seconds] at this
  · next h0 =>
    rw [Nat.eq_zero_of_not_pos h0, Int.toNat_zero, Nat.zero_mul, Nat.zero_mul, S_zero a r hc, E_zero]
    exact ⟨Nat.le_refl 0, Nat.zero_lt_of_lt (h.2.1 0 h.1)⟩

/-- **The first segment of a cycle.**  `cycleFirst` — what `calcStatusCode` subtracts from the request's index — is the
least segment index whose start lies at or after the start of the cycle (cycles of `cycle` seconds counted from the start
of the stream) that contains the requested segment's start `t`: cycles not divisible by the segment duration, loop
wraps and a non-zero stream start included. -/
theorem c14_cycle_first (a : Asset) (cfg : Cfg) (r : Rep) (h : Contig r) (hc : Closes a r)
    (hadm : a.loopMS * r.T = 1000 * r.dur) (hl : 0 < a.loopMS) (cycle t : Nat) :
    t / (cycle * r.T) * cycle * r.T ≤ S a r (cycleFirst a cfg r cycle r.T t) ∧
    ∀ j, j < cycleFirst a cfg r cycle r.T t → S a r j < t / (cycle * r.T) * cycle * r.T :=
  have hi := cycleFirst_le_iff a cfg r h hc hadm hl cycle t
  ⟨(hi _).mp (Nat.le_refl _), fun j hj => Nat.lt_of_not_le fun hW => Nat.not_le_of_lt hj ((hi j).mpr hW)⟩

/-- … hence a requested segment `k` lies at or after the first of its cycle: the "internal error" branch of
`calcStatusCode` is dead, and `k − cycleFirst` is the 0-based rank of `k` among the segments starting in its cycle
(`cycleFirst … k` are exactly the segments of index ≤ k that start at or after the cycle start). -/
theorem c14_rank (a : Asset) (cfg : Cfg) (r : Rep) (h : Contig r) (hc : Closes a r)
    (hadm : a.loopMS * r.T = 1000 * r.dur) (hl : 0 < a.loopMS) (cycle k : Nat) (hcy : 0 < cycle * r.T) :
    cycleFirst a cfg r cycle r.T (S a r k) ≤ k ∧
    ∀ j, j ≤ k → (cycleFirst a cfg r cycle r.T (S a r k) ≤ j ↔ S a r k / (cycle * r.T) * cycle * r.T ≤ S a r j) :=
  have hi := cycleFirst_le_iff a cfg r h hc hadm hl cycle (S a r k)
  ⟨(hi k).mpr (by rw [Nat.mul_assoc]; exact Nat.div_mul_le_self _ _), fun j _ => hi j⟩

/-- **The configured code is returned iff the request is the configured relative number of its cycle** (first pattern
whose representation filter matches; every other request falls through to the remaining patterns / normal service). -/
theorem c14_code_iff (a : Asset) (r : Rep) (cfg : Cfg) (m : Meta) (mrep : Rep) (p : Pat) (rest : List Pat) (k : Nat)
    (h : Contig mrep) (hc : Closes a mrep) (hadm : a.loopMS * mrep.T = 1000 * mrep.dur) (hl : 0 < a.loopMS)
    (hT : m.T = mrep.T) (htime : m.newTime = S a mrep k) (hnr : m.newNr = cfg.startNr + k)
    (hrep : repInReps r.id p = true) (hcy : 0 < p.cycle * mrep.T) :
    codeGo a r cfg m mrep (p :: rest) =
      if k - cycleFirst a cfg mrep p.cycle mrep.T (S a mrep k) = p.rsq then .code p.code
      else codeGo a r cfg m mrep rest := by
  have hr := (c14_rank a cfg mrep h hc hadm hl p.cycle k hcy).1
  rw [codeGo]
  simp only [hrep, Bool.not_true, Bool.false_eq_true, ↓reduceIte, hT, htime, hnr]
  rw [if_neg (Nat.ne_of_gt hcy), if_neg (Nat.not_lt.mpr (Nat.add_le_add_left hr _)), Nat.add_sub_cancel_left]

/-- non-vacuity: `testpic_2s` (2 s segments).  With a 30 s cycle, segment 17 starts at 34 s, in the cycle starting at
30 s whose first segment is 15 → rank 2; with a 7 s cycle (no multiple of the segment duration), segment 17 lies in the
cycle starting at 28 s, first segment 14 → rank 3; segment 4 (8 s) lies in the cycle starting at 7 s whose first
*starting* segment is 4 → rank 0. -/
example : cycleFirst exAsset Cfg.default exRep 30 90000 (S exAsset exRep 17) = 15 := by decide
example : cycleFirst exAsset Cfg.default exRep 7 90000 (S exAsset exRep 17) = 14 := by decide
example : cycleFirst exAsset Cfg.default exRep 7 90000 (S exAsset exRep 4) = 4 := by decide

/-- non-vacuity: `u20d3u12`: second 21 of the cycle is down, second 35 ≡ 0 is up -/
example : parseLoss "u20d3u12" = some [(1, 20), (2, 3), (1, 12)] := by decide
example : stateAt [(1, 20), (2, 3), (1, 12)] 21 = some 2 ∧ stateAt [(1, 20), (2, 3), (1, 12)] 35 = some 1 := by decide
example : parseLoss "" = none ∧ parseLoss "u0" = none ∧ parseLoss "u5d" = none := by decide

end Core

/-! ## Traffic patterns at the handler: the BaseURL directory selects the pattern (`Model/Traffic.lean`, op `tdec`) -/
namespace Traffic
open Core

/-- **The BaseURL the MPD offers comes back as its own index**, for every index (one digit or many): `extractPattern`
reads `/bu<n>/rest` as pattern `n` and hands on `/rest`. -/
theorem c14_baseurl_index (n : Nat) (rest : List Char) (hn : n ≤ 9223372036854775807) :
    extractPattern ('/' :: (baseURLDir n ++ '/' :: rest)) = some ((n : Int), '/' :: rest) := by
  have hns : ∀ c ∈ baseURLDir n, decide (c ≠ '/') = true := fun c hc => decide_eq_true (baseURLDir_no_slash n c hc)
  simp only [extractPattern, List.takeWhile_append_of_pos hns, List.dropWhile_append_of_pos hns]
  simp only [baseURLDir, ne_eq, decide_not, decide_true, Bool.not_true, Bool.false_eq_true, not_false_eq_true,
    List.takeWhile_cons_of_neg, List.append_nil, atoiL_toDigits n hn, List.dropWhile_cons_of_neg]

/-- the traffic branch on a request through the `j`-th offered BaseURL, the index compared as a natural number -/
theorem route_baseURL (pats : List (List LossItvl)) (j nowMS : Nat) (rest : List Char) (hn : j ≤ 9223372036854775807) :
    route pats ('/' :: (baseURLDir j ++ '/' :: rest)) nowMS =
      if pats.length ≤ j then (.noSuchBaseURL, '/' :: rest)
      else ((stateAt (pats.getD j []) (nowMS / 1000)).elim .crash .state, '/' :: rest) := by
  unfold route
  rw [c14_baseurl_index j rest hn]
  simp only [ge_iff_le, Int.ofNat_le, Int.natCast_nonneg, if_true, Int.toNat_natCast]
  cases stateAt (pats.getD j []) (nowMS / 1000) <;> rfl

/-- **Each BaseURL follows its own pattern**: a request through the `j`-th offered BaseURL is decided by the state of
pattern `j` at the whole second of the request, and the segment is then looked up without the directory. -/
theorem c14_traffic_route (pats : List (List LossItvl)) (j nowMS : Nat) (rest : List Char) (hj : j < pats.length)
    (hn : j ≤ 9223372036854775807) :
    route pats ('/' :: (baseURLDir j ++ '/' :: rest)) nowMS =
      (match stateAt (pats.getD j []) (nowMS / 1000) with
        | some s => Decision.state s
        | none => Decision.crash, '/' :: rest) := by
  rw [route_baseURL pats j nowMS rest hn, if_neg (Nat.not_le.mpr hj)]
  cases stateAt (pats.getD j []) (nowMS / 1000) <;> rfl

/-- with patterns as the URL parser admits them (`c14_loss_parse`), the state exists: the request never crashes and is
up, missing, slow or hanging exactly as `stateIn` walks the intervals of pattern `j` -/
theorem c14_traffic_route_state (pats : List (List LossItvl)) (j nowMS : Nat) (rest : List Char) (hj : j < pats.length)
    (hn : j ≤ 9223372036854775807) (hgood : ∀ l ∈ pats, l ≠ [] ∧ GoodItvls l) :
    route pats ('/' :: (baseURLDir j ++ '/' :: rest)) nowMS =
      (Decision.state (stateIn (pats.getD j []) (nowMS / 1000 % cycleDur (pats.getD j []))), '/' :: rest) := by
  rw [c14_traffic_route pats j nowMS rest hj hn]
  have hmem : pats.getD j [] ∈ pats := by
    rw [List.getD_eq_getElem?_getD, List.getElem?_eq_getElem hj]; simp
  obtain ⟨hne, hg⟩ := hgood _ hmem
  rw [stateAt_of_pos (cycleDur_pos hne hg)]

/-- **An index without pattern is no BaseURL**: 404, whatever the time -/
theorem c14_traffic_no_such (pats : List (List LossItvl)) (j nowMS : Nat) (rest : List Char) (hj : pats.length ≤ j)
    (hn : j ≤ 9223372036854775807) :
    (route pats ('/' :: (baseURLDir j ++ '/' :: rest)) nowMS).1 = Decision.noSuchBaseURL := by
  rw [route_baseURL pats j nowMS rest hn, if_pos hj]

/-- non-vacuity: thirteen patterns, the request through `bu12` at second 100 meets `d7u2` (cycle 9, second 1: down) -/
example : route [[(1,3)],[(2,3)],[(1,2),(2,1)],[(2,1),(1,2)],[(1,5)],[(2,5)],[(1,1),(2,1)],[(2,2),(1,1)],[(1,4)],[(2,4)],
    [(2,3),(1,3)],[(1,2)],[(2,7),(1,2)]] "/bu12/V300/49.m4s".toList 100300 = (Decision.state 2, "/V300/49.m4s".toList) := by
  decide
example : baseURLDir 12 = "bu12".toList := by decide

end Traffic
