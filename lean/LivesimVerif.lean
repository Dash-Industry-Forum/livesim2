import LivesimVerif.Props.C01
import LivesimVerif.Props.C02
import LivesimVerif.Props.C03
import LivesimVerif.Props.C04
import LivesimVerif.Props.C05
import LivesimVerif.Props.C06
import LivesimVerif.Props.C07
import LivesimVerif.Props.C08
import LivesimVerif.Props.C09
import LivesimVerif.Props.C10
import LivesimVerif.Props.C11
import LivesimVerif.Props.C12
import LivesimVerif.Props.C13
import LivesimVerif.Props.C14
import LivesimVerif.Props.C15
import LivesimVerif.Props.C16
import LivesimVerif.Props.C17
import LivesimVerif.Props.C18
import LivesimVerif.Props.C19
import LivesimVerif.Props.C20
import LivesimVerif.Gen.SitesPos
